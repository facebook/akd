/-
Label operations on labels of the form `ofBits b` (C01b): everything the insertion algorithm does
with labels, stated on bit strings.
-/
import AkdModel.Lemmas.OfBits
import AkdModel.Lemmas.CanonLemmas
namespace Akd.Ins
open Akd NodeLabel

theorem eq_nil_of_ofBits_eq {e : NodeLabel} (he : e.len = 0) {x : BitStr} (h : ofBits x = e) : x = [] :=
  List.eq_nil_of_length_eq_zero (he ▸ congrArg NodeLabel.len h)

theorem lcp_ofBits_of_len_zero (e : NodeLabel) (he : e.len = 0) (x y : BitStr) (hx : x.length ≤ 256)
    (hy : y.length ≤ 256) : lcp e (ofBits x) (ofBits y) = ofBits (BitStr.commonPrefix x y) := by
  by_cases hxe : ofBits x = e
  · obtain rfl := eq_nil_of_ofBits_eq he hxe
    rw [C17.lcp_empty e _ _ (.inl hxe), ← hxe]
    cases y <;> rfl
  by_cases hye : ofBits y = e
  · obtain rfl := eq_nil_of_ofBits_eq he hye
    rw [C17.lcp_empty e _ _ (.inr hye), ← hye]
    cases x <;> rfl
  obtain ⟨h1, h2, h3⟩ := C17.lcp_spec e (ofBits x) (ofBits y) hxe hye (by simpa [ofBits_len])
    (by simpa [ofBits_len])
  rw [C17.bits_ofBits x hx, C17.bits_ofBits y hy] at h1 h2
  have hle : (BitStr.commonPrefix x y).length ≤ 256 :=
    Nat.le_trans (BitStr.commonPrefix_prefix_left x y).length_le hx
  have hn : (lcp e (ofBits x) (ofBits y)).Normalised := by
    by_cases hlt : (lcp e (ofBits x) (ofBits y)).len < 256
    · exact h3 hlt
    · exact normalised_of_len_ge _ (by omega)
  rw [← C17.ofBits_bits _ (by omega) hn, h1]

theorem prefixOrdering_ofBits (p b : BitStr) (hp : p.length ≤ 256) (hb : b.length ≤ 256) :
    ((ofBits p).prefixOrdering (ofBits b) = .withZero ↔ (p ++ [false]) <+: b) ∧
    ((ofBits p).prefixOrdering (ofBits b) = .withOne ↔ (p ++ [true]) <+: b) := by
  have := C17.prefixOrdering_spec (ofBits p) (ofBits b) (by simpa [ofBits_len]) (by simpa [ofBits_len])
  rwa [C17.bits_ofBits p hp, C17.bits_ofBits b hb] at this

theorem length_lt_of_not_prefix {p x y : BitStr} (hx : p <+: x) (hy : p <+: y) (h : ¬ y <+: x) :
    p.length < y.length :=
  Nat.lt_of_not_le fun hle => h (hy.eq_of_length_le hle ▸ hx)

/-- the fold of `get_longest_common_prefix` over the unsorted representation, on bit strings -/
def lcpAll {α} : List (BitStr × α) → BitStr
  | [] => []
  | x :: rest => rest.foldl (fun acc n => BitStr.commonPrefix n.1 acc) x.1

theorem prefix_lcpAll_iff {α} (bs : List (BitStr × α)) (hne : bs ≠ []) (z : BitStr) :
    z <+: lcpAll bs ↔ ∀ b ∈ bs, z <+: b.1 := by
  cases bs with
  | nil => exact absurd rfl hne
  | cons x rest =>
    simp only [lcpAll]
    rw [prefix_foldl_commonPrefix_iff (fun n : BitStr × α => n.1)]
    simp

theorem lcpAll_prefix {α} (bs : List (BitStr × α)) (hne : bs ≠ []) : ∀ b ∈ bs, lcpAll bs <+: b.1 :=
  (prefix_lcpAll_iff bs hne _).1 (List.prefix_refl _)

theorem lcpAll_length_le {α} (bs : List (BitStr × α)) (hne : bs ≠ []) (h : ∀ b ∈ bs, b.1.length ≤ 256) :
    (lcpAll bs).length ≤ 256 := by
  obtain ⟨b, hb⟩ := List.exists_mem_of_ne_nil bs hne
  exact Nat.le_trans (lcpAll_prefix bs hne b hb).length_le (h b hb)

end Akd.Ins
