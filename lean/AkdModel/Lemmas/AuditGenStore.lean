/-
Append-only proof generation over storage: `appendOnlyHelper` over a store that represents a trie
returns the element lists `ER` / `IR` of `AuditGenRoot`; the loop of `appendOnlyProof`.
-/
import AkdModel.Lemmas.AuditGenRoot
namespace Akd.AGen
open Akd
open Akd.Ins (maxEp minEp oleaves NodeIs Rep RepRoot oMax oMin olbl)

/-- the `side` closure of `appendOnlyHelper` -/
def hside (c : Cfg) (s : NodeStore) (latest lo hi fuel : Nat) (l : Option NodeLabel) :
    Except Err (List AzksElement × List AzksElement) :=
  match l with
  | none => .ok ([], [])
  | some cl =>
    match s.getNode cl latest with
    | .error e => .error e
    | .ok ch => NodeStore.appendOnlyHelper c s latest lo hi fuel ch

def hcomb (a b : Except Err (List AzksElement × List AzksElement)) :
    Except Err (List AzksElement × List AzksElement) :=
  match a, b with
  | .ok (u1, l1), .ok (u2, l2) => .ok (u1 ++ u2, l1 ++ l2)
  | .error e, _ => .error e
  | _, .error e => .error e

theorem helper_succ (c : Cfg) (s : NodeStore) (latest lo hi fuel : Nat) (node : TreeNode) :
    NodeStore.appendOnlyHelper c s latest lo hi (fuel + 1) node =
      if node.lastEpoch ≤ lo then
        if node.nodeType = .root then .ok ([], [])
        else .ok ([⟨node.label, nodeToAzksValue c true (some node)⟩], [])
      else if node.minDescEpoch > hi then .ok ([], [])
      else if node.nodeType = .leaf then .ok ([], [⟨node.label, node.hash⟩])
      else hcomb (hside c s latest lo hi fuel node.left) (hside c s latest lo hi fuel node.right) := by
  rfl

theorem azksValue_dir {c : Cfg} {T : CTree} {n : TreeNode} (h : NodeIs c .directory T n) :
    nodeToAzksValue c true (some n) = T.azks c .withLeafEpoch := by
  have := Ins.azksValue_nodeIs h
  simpa [Ins.hm] using this

theorem hside_rep (c : Cfg) (s : NodeStore) (latest lo hi fuel : Nat) (T : CTree)
    (hrep : Rep c .directory s T) (hmax : maxEp T ≤ latest) :
    ∃ n, NodeIs c .directory T n ∧
      hside c s latest lo hi fuel (some (NodeLabel.ofBits T.lbl))
        = NodeStore.appendOnlyHelper c s latest lo hi fuel n := by
  obtain ⟨⟨r, hg, hn⟩, _⟩ := (Ins.rep_iff c .directory s T).1 hrep
  refine ⟨r.latest, hn, ?_⟩
  simp only [hside, Ins.getNode_latest s _ r latest hg (by rw [Ins.nodeIs_lastEpoch hn]; exact hmax)]

/-- `E` / `I` in the shape of `appendOnlyHelper`: the largest and the smallest epoch below a node decide what it
contributes -/
theorem EI_step (c : Cfg) (lo hi : Nat) (hlh : lo ≤ hi) (T : CTree) :
    (E c lo lo T, I lo hi T) =
      if maxEp T ≤ lo then ([T.element c], [])
      else if minEp T > hi then ([], [])
      else match T with
        | .leaf q v _ => ([], [⟨NodeLabel.ofBits q, v⟩])
        | .node _ l r => (E c lo lo l ++ E c lo lo r, I lo hi l ++ I lo hi r) := by
  by_cases a1 : maxEp T ≤ lo
  · rw [if_pos a1, I_nil lo hi T (.inl a1)]
    cases T with
    | leaf q v e => simp only [E, if_pos (show e ≤ lo from a1)]; rfl
    | node q l r => simp only [E, if_pos a1]
  · rw [if_neg a1]
    by_cases a2 : minEp T > hi
    · rw [if_pos a2, E_nil c lo lo (Nat.le_refl _) T (by omega), I_nil lo hi T (.inr a2)]
    · rw [if_neg a2]
      cases T with
      | leaf q v e =>
        simp only [maxEp, minEp] at a1 a2
        simp only [E, I, if_neg a1, if_pos (show lo < e ∧ e ≤ hi by omega)]
      | node q l r => simp only [E, I, if_neg a1]

theorem helper_tree (c : Cfg) (s : NodeStore) (latest lo hi : Nat) (hlh : lo ≤ hi) :
    ∀ (T : CTree) (fuel : Nat), T.WF → (∀ lf ∈ T.leaves, lf.lbl.length ≤ 256) →
      maxEp T ≤ latest → Rep c .directory s T → 257 ≤ fuel + T.lbl.length →
      ∀ n, NodeIs c .directory T n →
      NodeStore.appendOnlyHelper c s latest lo hi fuel n = .ok (E c lo lo T, I lo hi T) := by
  intro T fuel
  induction fuel generalizing T with
  | zero =>
    intro hwf hlen _ _ hfuel
    have := Canon.Tree.lbl_length_le hwf hlen
    omega
  | succ f ih =>
    intro hwf hlen hmax hrep hfuel n hn
    have hty : n.nodeType ≠ .root := by
      cases T
      · rw [hn.2.1]; decide
      · rw [hn.2.1]; decide
    -- the node holds `lastEpoch = maxEp T` and `minDescEpoch = minEp T`: the helper branches as `EI_step` does
    rw [helper_succ, Ins.nodeIs_lastEpoch hn, Ins.nodeIs_minDesc hn, Ins.nodeIs_label hn, azksValue_dir hn,
      EI_step c lo hi hlh T]
    by_cases a1 : maxEp T ≤ lo
    · rw [if_pos a1, if_pos a1, if_neg hty]
      rfl
    · rw [if_neg a1, if_neg a1]
      by_cases a2 : minEp T > hi
      · rw [if_pos a2, if_pos a2]
      · rw [if_neg a2, if_neg a2]
        cases T with
        | leaf q v e =>
          rw [if_pos hn.2.1, hn.2.2.2.2.1]
          rfl
        | node q l r =>
          obtain ⟨_, h2, h3, h4, _⟩ := hn
          have hp := hwf.1.length_le
          have hp' := hwf.2.1.length_le
          simp only [List.length_append, List.length_singleton] at hp hp'
          simp only [maxEp] at hmax
          simp only [CTree.lbl] at hfuel
          obtain ⟨nl, hnl, el⟩ := hside_rep c s latest lo hi f l hrep.2.1 (by omega)
          obtain ⟨nr, hnr, er⟩ := hside_rep c s latest lo hi f r hrep.2.2 (by omega)
          rw [if_neg (by rw [h2]; decide), h3, h4, el, er,
            ih l hwf.2.2.1 (fun lf h => hlen lf (List.mem_append_left _ h)) (by omega) hrep.2.1 (by omega) nl hnl,
            ih r hwf.2.2.2 (fun lf h => hlen lf (List.mem_append_right _ h)) (by omega) hrep.2.2 (by omega) nr hnr]
          rfl

theorem hside_opt (c : Cfg) (s : NodeStore) (latest lo hi : Nat) (hlh : lo ≤ hi) (o : Option CTree)
    (hwf : ∀ a, o = some a → a.WF) (hlen : ∀ lf ∈ oleaves o, lf.lbl.length ≤ 256)
    (hmax : ∀ lf ∈ oleaves o, lf.ep ≤ latest) (hrep : ∀ a, o = some a → Rep c .directory s a) :
    hside c s latest lo hi 299 (olbl o) = .ok (oE c lo lo o, oI lo hi o) := by
  cases o with
  | none => rfl
  | some a =>
    have hma : maxEp a ≤ latest := Ins.maxEp_le a latest hmax
    obtain ⟨n, hn, e⟩ := hside_rep c s latest lo hi 299 a (hrep a rfl) hma
    exact e.trans (helper_tree c s latest lo hi hlh a 299 (hwf a rfl) hlen hma (hrep a rfl) (by omega) n hn)

theorem slot_nil (c : Cfg) (lo hi : Nat) (hlh : lo ≤ hi) (o : Option CTree) (h : ∀ a, o = some a → hi < minEp a) :
    oE c lo lo o = [] ∧ oI lo hi o = [] := by
  cases o with
  | none => exact ⟨rfl, rfl⟩
  | some a =>
    have := h a rfl
    exact ⟨E_nil c lo lo (Nat.le_refl _) a (by omega), I_nil lo hi a (.inr this)⟩

theorem oMin_lt (hi : Nat) (a b : Option CTree) (h : hi < oMin a b) :
    (∀ x, a = some x → hi < minEp x) ∧ (∀ x, b = some x → hi < minEp x) := by
  cases a <;> cases b <;> simp_all [oMin] <;> omega

theorem le_oMax (t : CRoot) (lf : Leaf) (h : lf ∈ t.leaves) : lf.ep ≤ oMax t.l t.r := by
  obtain ⟨a, ha, hl⟩ := CRoot.mem_leaves.mp h
  have := Ins.le_maxEp a lf hl
  rcases ha with ha | ha <;> simp only [oMax, ha, Option.map_some, Option.getD_some] <;> omega

/-- a root whose `lastEpoch` is `≤ lo` yields the empty proof (`node.nodeType = .root`):
right for the empty tree only, hence the hypothesis on `lo` -/
theorem helper_root (c : Cfg) (s : NodeStore) (latest : Nat) (t : CRoot) (hwf : t.WF)
    (hlen : ∀ lf ∈ t.leaves, lf.lbl.length ≤ 256) (hmax : ∀ lf ∈ t.leaves, lf.ep ≤ latest)
    (hrep : RepRoot c .directory s t) :
    ∃ root, s.getNode NodeLabel.root latest = .ok root ∧
      ∀ lo hi, lo ≤ hi → (t.leaves = [] ∨ lo < oMax t.l t.r) →
        NodeStore.appendOnlyHelper c s latest lo hi 300 root = .ok (ER c lo lo t, IR lo hi t) := by
  obtain ⟨⟨r, hg, _, hty, hleft, hright, _, hlast, hmin⟩, hrl, hrr⟩ := hrep
  refine ⟨r.latest, Ins.getNode_latest s _ r latest hg (by rw [hlast]; exact Ins.oMax_le _ _ _ hmax),
    fun lo hi hlh hne => ?_⟩
  rw [helper_succ, hlast, hmin, hty, hleft, hright]
  rw [leaves_eq] at hlen hmax
  by_cases a1 : oMax t.l t.r ≤ lo
  · rw [if_pos a1, if_pos rfl]
    have he : t.leaves = [] := hne.resolve_right (by omega)
    have hn : t.l = none ∧ t.r = none := by
      obtain ⟨l, r⟩ := t
      cases l <;> cases r <;> simp [CRoot.leaves, Canon.Tree.leaves_ne_nil] at he ⊢
    simp only [ER, IR, hn.1, hn.2, oE, oI, List.append_nil]
  · rw [if_neg a1]
    by_cases a2 : oMin t.l t.r > hi
    · rw [if_pos a2]
      obtain ⟨m1, m2⟩ := oMin_lt hi t.l t.r a2
      obtain ⟨e1, i1⟩ := slot_nil c lo hi hlh t.l m1
      obtain ⟨e2, i2⟩ := slot_nil c lo hi hlh t.r m2
      simp only [ER, IR, e1, i1, e2, i2, List.append_nil]
    · rw [if_neg a2, if_neg (by decide)]
      rw [hside_opt c s latest lo hi hlh t.l (fun a h => (hwf.1 a h).2) (fun lf h => hlen lf (List.mem_append_left _ h))
          (fun lf h => hmax lf (List.mem_append_left _ h)) hrl,
        hside_opt c s latest lo hi hlh t.r (fun a h => (hwf.2 a h).2) (fun lf h => hlen lf (List.mem_append_right _ h))
          (fun lf h => hmax lf (List.mem_append_right _ h)) hrr]
      rfl

def proofsFrom (c : Cfg) (t : CRoot) : Nat → Nat → List NodeStore.SingleAppendOnlyProof
  | _, 0 => []
  | ep, k + 1 => ⟨IR ep (ep + 1) t, ER c ep ep t⟩ :: proofsFrom c t (ep + 1) k

def epochsFrom : Nat → Nat → List Nat
  | _, 0 => []
  | ep, k + 1 => ep :: epochsFrom (ep + 1) k

theorem go_spec (c : Cfg) (s : NodeStore) (a : Azks) (root : TreeNode) (t : CRoot) :
    ∀ (k ep : Nat) (acc : NodeStore.AppendOnlyProof),
      (∀ e, ep ≤ e → e < ep + k →
        NodeStore.appendOnlyHelper c s a.latestEpoch e (e + 1) 300 root = .ok (ER c e e t, IR e (e + 1) t)) →
      NodeStore.appendOnlyProof.go c s a root k ep acc
        = .ok ⟨acc.proofs ++ proofsFrom c t ep k, acc.epochs ++ epochsFrom ep k⟩
  | 0, ep, acc, _ => by
    simp [NodeStore.appendOnlyProof.go, proofsFrom, epochsFrom]
  | k + 1, ep, acc, h => by
    simp only [NodeStore.appendOnlyProof.go]
    rw [h ep (Nat.le_refl _) (by omega)]
    simp only
    rw [go_spec c s a root t k (ep + 1) _ (fun e h1 h2 => h e (by omega) (by omega))]
    simp [proofsFrom, epochsFrom]

theorem epochsFrom_eq : ∀ (k ep : Nat), epochsFrom ep k = List.range' ep k
  | 0, _ => rfl
  | k + 1, ep => by rw [epochsFrom, epochsFrom_eq k, List.range'_succ]

theorem proofsFrom_eq (c : Cfg) (t : CRoot) : ∀ (k ep : Nat),
    proofsFrom c t ep k = (List.range' ep k).map fun e => ⟨IR e (e + 1) t, ER c e e t⟩
  | 0, _ => rfl
  | k + 1, ep => by rw [proofsFrom, proofsFrom_eq c t k, List.range'_succ, List.map_cons]

end Akd.AGen
