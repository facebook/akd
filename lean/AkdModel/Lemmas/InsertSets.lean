/-
The element-set operations (`ofList`, `partition`, `setLcp`) on batches of `ofBits` labels,
for both representations (C01b).
-/
import AkdModel.Lemmas.InsertBits
namespace Akd.Ins
open Akd NodeLabel

/-- a batch element on bit strings, and its byte-level encoding -/
abbrev enc (x : BitStr × Dig) : NodeLabel × Dig := (ofBits x.1, x.2)

/-- the representation invariant of `AzksElementSet` -/
def SetOK (set : ElementSet Dig) : Prop :=
  match set with
  | .binarySearchable xs => ∃ L, C17.SortedSameLen xs L
  | .unsorted _ => True

/-- `set` holds the batch `bs`, every label of which lies under `pre` -/
structure Batch (set : ElementSet Dig) (bs : List (BitStr × Dig)) (pre : BitStr) : Prop where
  ok : SetOK set
  elems : set.elems = bs.map enc
  under : ∀ b ∈ bs, pre <+: b.1 ∧ b.1.length ≤ 256

theorem Batch.at {set : ElementSet Dig} {bs : List (BitStr × Dig)} {pre p : BitStr} (h : Batch set bs pre)
    (hp : ∀ b ∈ bs, p <+: b.1) : Batch set bs p :=
  ⟨h.ok, h.elems, fun b hb => ⟨hp b hb, (h.under b hb).2⟩⟩

theorem Batch.isEmpty {set : ElementSet Dig} {bs : List (BitStr × Dig)} {pre : BitStr} (h : Batch set bs pre)
    (hne : bs ≠ []) : set.elems.isEmpty = false := by
  rw [h.elems]
  cases bs with
  | nil => exact absurd rfl hne
  | cons _ _ => rfl

theorem Batch.pos {set : ElementSet Dig} {bs : List (BitStr × Dig)} {pre : BitStr} (h : Batch set bs pre)
    (hp : 1 ≤ pre.length) : ∀ b ∈ bs, 1 ≤ b.1.length :=
  fun b hb => Nat.le_trans hp (h.under b hb).1.length_le

theorem Batch.le_lcpAll {set : ElementSet Dig} {bs : List (BitStr × Dig)} {pre : BitStr} (h : Batch set bs pre)
    (hne : bs ≠ []) : pre <+: lcpAll bs :=
  (prefix_lcpAll_iff bs hne _).2 (fun b hb => (h.under b hb).1)

/-- the element continues with bit `d` after `p` -/
def goes (p : BitStr) (d : Bool) (x : BitStr × Dig) : Bool := (p ++ [d]).isPrefixOf x.1

theorem goes_iff (p : BitStr) (d : Bool) (x : BitStr × Dig) : goes p d x = true ↔ (p ++ [d]) <+: x.1 := by
  unfold goes
  exact List.isPrefixOf_iff_prefix

theorem goes_self (d : Bool) (x : BitStr × Dig) : goes x.1 d x = false := by
  cases h : goes x.1 d x
  · rfl
  · have := ((goes_iff _ _ _).1 h).length_le
    simp at this
    omega

theorem goes_exists {p : BitStr} {x : BitStr × Dig} (h1 : p <+: x.1) (h2 : p.length < x.1.length) :
    ∃ d, goes p d x = true :=
  ⟨x.1[p.length]'h2, (goes_iff _ _ _).2 (Canon.snoc_prefix_of_getElem? h1 (List.getElem?_eq_getElem h2))⟩

theorem goes_unique {p : BitStr} {x : BitStr × Dig} {d d' : Bool} (h1 : goes p d x = true)
    (h2 : goes p d' x = true) : d = d' :=
  Canon.snoc_prefix_inj ((goes_iff _ _ _).1 h1) ((goes_iff _ _ _).1 h2)

theorem filter_goes_perm {p : BitStr} {bs : List (BitStr × Dig)}
    (h : ∀ b ∈ bs, p <+: b.1 ∧ p.length < b.1.length) :
    (bs.filter (goes p false) ++ bs.filter (goes p true)).Perm bs := by
  have : bs.filter (goes p true) = bs.filter (fun x => !goes p false x) := by
    apply List.filter_congr
    intro b hb
    obtain ⟨d, hd⟩ := goes_exists (h b hb).1 (h b hb).2
    cases h0 : goes p false b <;> cases h1 : goes p true b <;> try rfl
    · cases d <;> simp_all
    · exact absurd (goes_unique h0 h1) (by decide)
  rw [this]
  exact List.filter_append_perm _ _

theorem side_nonempty {p : BitStr} {bs : List (BitStr × Dig)}
    (hstrict : ∀ b ∈ bs, p <+: b.1 ∧ p.length < b.1.length) (d : Bool)
    (hnot : ¬ ∀ b ∈ bs, (p ++ [!d]) <+: b.1) : bs.filter (goes p d) ≠ [] := by
  intro h
  apply hnot
  intro b hb
  obtain ⟨d', hd'⟩ := goes_exists (hstrict b hb).1 (hstrict b hb).2
  have hne : d' ≠ d := fun e => List.ne_nil_of_mem (List.mem_filter.2 ⟨hb, e ▸ hd'⟩) h
  rw [← Bool.eq_not_of_ne hne]
  exact (goes_iff _ _ _).1 hd'

theorem sortedSameLen_sublist {xs ys : List (NodeLabel × Dig)} {L : Nat} (h : C17.SortedSameLen xs L)
    (hs : ys.Sublist xs) : C17.SortedSameLen ys L :=
  ⟨fun x hx => h.sameLen x (hs.subset hx), h.le256, h.sorted.sublist hs⟩

theorem popInvalid_sublist (p : NodeLabel) (xs : List (NodeLabel × Dig)) :
    (ElementSet.popInvalid p xs).Sublist xs := by
  unfold ElementSet.popInvalid
  have h1 := List.dropWhile_sublist (l := xs.reverse) (fun x => p.prefixOrdering x.1 == .invalid)
  have h2 := List.reverse_sublist.2 h1
  rwa [List.reverse_reverse] at h2

theorem partition_unsorted (xs : List (NodeLabel × Dig)) (p : NodeLabel) :
    (ElementSet.unsorted xs).partition p =
      (.unsorted (xs.filter (fun x => p.prefixOrdering x.1 == .withZero)),
       .unsorted (xs.filter (fun x => p.prefixOrdering x.1 == .withOne))) := rfl

theorem filter_enc (bs : List (BitStr × Dig)) (p : BitStr) (d : Bool) (o : PrefixOrdering)
    (hb : ∀ b ∈ bs, b.1.length ≤ 256)
    (ho : ∀ b : BitStr, b.length ≤ 256 → ((ofBits p).prefixOrdering (ofBits b) = o ↔ (p ++ [d]) <+: b)) :
    (bs.map enc).filter (fun x => (ofBits p).prefixOrdering x.1 == o) = (bs.filter (goes p d)).map enc := by
  rw [List.filter_map]
  congr 1
  apply List.filter_congr
  intro b hbm
  rw [Function.comp, Bool.eq_iff_iff, beq_iff_eq, goes_iff]
  exact ho b.1 (hb b hbm)

theorem partition_spec {set : ElementSet Dig} {bs : List (BitStr × Dig)} {p : BitStr}
    (h : Batch set bs p) (hp : p.length ≤ 256) :
    Batch (set.partition (ofBits p)).1 (bs.filter (goes p false)) (p ++ [false]) ∧
    Batch (set.partition (ofBits p)).2 (bs.filter (goes p true)) (p ++ [true]) := by
  obtain ⟨hok, hel, hb⟩ := h
  have hunder : ∀ d, ∀ b ∈ bs.filter (goes p d), (p ++ [d]) <+: b.1 ∧ b.1.length ≤ 256 := fun d b hbm =>
    ⟨(goes_iff _ _ _).1 (List.mem_filter.1 hbm).2, (hb b (List.mem_filter.1 hbm).1).2⟩
  -- on the unsorted representation `partition` is two filters by `prefixOrdering`, which on `ofBits` labels are the
  -- filters by `goes`; the sorted representation computes the same lists (C17) and its halves stay sorted as sublists
  have hlin : ((ElementSet.unsorted (bs.map enc)).partition (ofBits p)).1.elems
        = (bs.filter (goes p false)).map enc ∧
      ((ElementSet.unsorted (bs.map enc)).partition (ofBits p)).2.elems
        = (bs.filter (goes p true)).map enc := by
    rw [partition_unsorted]
    exact ⟨filter_enc bs p false .withZero (fun b h => (hb b h).2)
        (fun b hbl => (prefixOrdering_ofBits p b hp hbl).1),
      filter_enc bs p true .withOne (fun b h => (hb b h).2)
        (fun b hbl => (prefixOrdering_ofBits p b hp hbl).2)⟩
  cases set with
  | unsorted xs =>
    simp only [ElementSet.elems] at hel
    subst hel
    exact ⟨⟨trivial, hlin.1, hunder false⟩, ⟨trivial, hlin.2, hunder true⟩⟩
  | binarySearchable xs =>
    simp only [ElementSet.elems] at hel
    subst hel
    obtain ⟨L, hL⟩ := hok
    have hpre : ∀ x ∈ bs.map enc, (ofBits p).isPrefixOf x.1 = true := by
      intro x hx
      obtain ⟨b, hbm, rfl⟩ := List.mem_map.1 hx
      exact (isPrefixOf_ofBits hp (hb b hbm).2).2 (hb b hbm).1
    have heq := C17.partition_sorted_eq_linear (bs.map enc) L (ofBits p) hL hpre (by simpa [ofBits_len])
    refine ⟨⟨⟨L, ?_⟩, heq.1.trans hlin.1, hunder false⟩, ⟨⟨L, ?_⟩, heq.2.trans hlin.2, hunder true⟩⟩
    · exact sortedSameLen_sublist hL ((popInvalid_sublist _ _).trans (List.take_sublist _ _))
    · exact sortedSameLen_sublist hL (List.drop_sublist _ _)

theorem foldl_lcp_ofBits (e : NodeLabel) (he : e.len = 0) (rest : List (BitStr × Dig))
    (hb : ∀ b ∈ rest, b.1.length ≤ 256) (a : BitStr) (ha : a.length ≤ 256) :
    (rest.map enc).foldl (fun acc n => NodeLabel.lcp e n.1 acc) (ofBits a)
      = ofBits (rest.foldl (fun acc n => BitStr.commonPrefix n.1 acc) a) := by
  induction rest generalizing a with
  | nil => rfl
  | cons n rest ih =>
    simp only [List.map_cons, List.foldl_cons]
    rw [lcp_ofBits_of_len_zero e he n.1 a (hb n (by simp)) ha]
    exact ih (fun b h => hb b (by simp [h])) _
      (Nat.le_trans (BitStr.commonPrefix_prefix_right n.1 a).length_le ha)

theorem setLcp_unsorted (e : NodeLabel) (he : e.len = 0) (bs : List (BitStr × Dig)) (hne : bs ≠ [])
    (hb : ∀ b ∈ bs, b.1.length ≤ 256) :
    (ElementSet.unsorted (bs.map enc)).setLcp e = ofBits (lcpAll bs) := by
  cases bs with
  | nil => exact absurd rfl hne
  | cons x rest =>
    simp only [List.map_cons, ElementSet.setLcp, lcpAll]
    exact foldl_lcp_ofBits e he rest (fun b h => hb b (by simp [h])) x.1 (hb x (by simp))

/-- both representations compute the common prefix of the batch (no element being the empty label) -/
theorem setLcp_spec (e : NodeLabel) (he : e.len = 0) {set : ElementSet Dig} {bs : List (BitStr × Dig)}
    {pre : BitStr} (h : Batch set bs pre) (hne : bs ≠ []) (hb : ∀ b ∈ bs, 1 ≤ b.1.length) :
    set.setLcp e = ofBits (lcpAll bs) := by
  obtain ⟨hok, hel, hu⟩ := h
  have hb' : ∀ b ∈ bs, b.1.length ≤ 256 := fun b h => (hu b h).2
  cases set with
  | unsorted xs =>
    simp only [ElementSet.elems] at hel
    subst hel
    exact setLcp_unsorted e he bs hne hb'
  | binarySearchable xs =>
    simp only [ElementSet.elems] at hel
    subst hel
    obtain ⟨L, hL⟩ := hok
    have hne' : bs.map enc ≠ [] := by simpa using hne
    have hxe : ∀ x ∈ bs.map enc, x.1 ≠ e := by
      intro x hx
      obtain ⟨b, hbm, rfl⟩ := List.mem_map.1 hx
      intro h
      have := hb b hbm
      rw [eq_nil_of_ofBits_eq he h] at this
      exact absurd this (by decide)
    have hLpos : 0 < L := by
      obtain ⟨b, hbm⟩ := List.exists_mem_of_ne_nil bs hne
      have := hL.sameLen (enc b) (List.mem_map_of_mem hbm)
      simp only [ofBits_len] at this
      have := hb b hbm
      omega
    have hbits := C17.setLcp_sorted_eq_linear e (bs.map enc) L hL hxe hne' hLpos (.inl he)
    rw [setLcp_unsorted e he bs hne hb', C17.bits_ofBits _ (lcpAll_length_le bs hne hb')] at hbits
    -- the sorted answer is itself an `ofBits` label: the common prefix of the first and the last element
    have hs : (ElementSet.binarySearchable (bs.map enc)).setLcp e
        = ofBits (BitStr.commonPrefix (bs.head hne).1 (bs.getLast hne).1) := by
      simp only [ElementSet.setLcp, List.head?_map, List.getLast?_map, List.head?_eq_some_head hne,
        List.getLast?_eq_some_getLast hne, Option.map_some]
      exact lcp_ofBits_of_len_zero e he _ _ (hb' _ (List.head_mem hne)) (hb' _ (List.getLast_mem hne))
    rw [hs] at hbits ⊢
    rw [C17.bits_ofBits _ (Nat.le_trans (BitStr.commonPrefix_prefix_left _ _).length_le
      (hb' _ (List.head_mem hne)))] at hbits
    rw [hbits]

theorem perm_map_inv {α β} (f : α → β) : ∀ (bs : List α) {l : List β}, l.Perm (bs.map f) →
    ∃ bs' : List α, l = bs'.map f ∧ bs'.Perm bs
  | [], l, h => ⟨[], h.eq_nil, .refl _⟩
  | b :: bs, l, h => by
    obtain ⟨l1, l2, rfl⟩ := List.append_of_mem (h.mem_iff.2 (List.mem_cons_self ..))
    obtain ⟨bs', e, hp⟩ := perm_map_inv f bs (List.perm_middle.symm.trans h).cons_inv
    obtain ⟨c1, c2, rfl, rfl, rfl⟩ := List.map_eq_append_iff.1 e.symm
    exact ⟨c1 ++ b :: c2, by simp, List.perm_middle.trans (hp.cons b)⟩

theorem ofList_spec (els : List (BitStr × Dig)) (hb : ∀ b ∈ els, b.1.length ≤ 256) :
    ∃ bs : List (BitStr × Dig), bs.Perm els ∧ Batch (ElementSet.ofList (els.map enc)) bs [] := by
  cases els with
  | nil => exact ⟨[], List.Perm.refl _, trivial, rfl, fun _ h => nomatch h⟩
  | cons x rest =>
    simp only [List.map_cons, ElementSet.ofList]
    split
    · next hall =>
      obtain ⟨hs, hp⟩ := C17.sortByLabel_sorted (enc x :: rest.map enc)
      obtain ⟨bs', h1, h2⟩ := perm_map_inv enc (x :: rest) hp
      refine ⟨bs', h2, ⟨(ofBits x.1).len, ?_, ?_, hs⟩, h1, fun b h => ⟨List.nil_prefix, hb b (h2.mem_iff.1 h)⟩⟩
      · intro y hy
        have hy' := hp.mem_iff.1 hy
        rw [List.all_eq_true] at hall
        simpa using hall y hy'
      · simpa [ofBits_len] using hb x (by simp)
    · exact ⟨x :: rest, List.Perm.refl _, trivial, by simp [ElementSet.elems], fun b h => ⟨List.nil_prefix, hb b h⟩⟩

end Akd.Ins
