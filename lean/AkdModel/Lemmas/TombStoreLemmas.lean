/-
For `Thm/C20b.lean`: `State.tombstone` rewrites exactly the selected states of the
label's view and nothing else.
-/
import AkdModel.Lemmas.StoreLemmas
import AkdModel.Lemmas.StoreSelect
namespace Akd.Store

namespace Map

theorem get?_setAll_assoc (D : Map) {L U : Map} (hL : Map.KU L) (hU : Map.KU U) (k : Key) :
    (D.setAll (L.setAll U)).get? k = ((D.setAll L).setAll U).get? k := by
  rw [get?_setAll D (KU_setAll hL U), get?_setAll L hU, get?_setAll _ hU, get?_setAll D hL]
  cases Map.get? U k <;> rfl

theorem mem_setAll_assoc {D L U : Map} (hD : D.KU) (hL : Map.KU L) (hU : Map.KU U) (r : Rec) :
    r ∈ D.setAll (L.setAll U) ↔ r ∈ (D.setAll L).setAll U := by
  rw [mem_iff_get? (KU_setAll hD _), mem_iff_get? (KU_setAll (KU_setAll hD L) U),
    get?_setAll_assoc D hL hU]

end Map

namespace State

theorem mem_tombUpd {cut : Nat} {data : List Rec} {r : Rec} :
    r ∈ tombUpd cut data ↔
      ∃ r0 ∈ data, (epochOf r0 ≤ cut ∧ r0.payload ≠ 0) ∧ r = { r0 with payload := 0 } := by
  simp only [tombUpd, List.mem_map, List.mem_filter, decide_eq_true_eq]
  constructor
  · rintro ⟨r0, ⟨h0, hs⟩, rfl⟩
    exact ⟨r0, h0, hs, rfl⟩
  · rintro ⟨r0, h0, hs, rfl⟩
    exact ⟨r0, ⟨h0, hs⟩, rfl⟩

theorem KU_tombUpd {data : Map} (h : data.KU) (cut : Nat) : Map.KU (tombUpd cut data) := by
  unfold tombUpd
  exact List.Pairwise.map _ (fun a b hab => hab) (h.filter _)

theorem userKeyed_tombUpd {u : Nat} {data : Map} (h : UserKeyed u data) (cut : Nat) :
    UserKeyed u (tombUpd cut data) := by
  intro r hr
  obtain ⟨r0, h0, _, rfl⟩ := mem_tombUpd.1 hr
  exact h r0 h0

theorem userStates_of_userKeyed {u : Nat} {m : Map} (h : UserKeyed u m) : userStates m u = m := by
  unfold userStates
  rw [List.filter_eq_self]
  intro a ha
  rw [h a ha]
  simp

theorem UserKeyed.get?_none {u : Nat} {m : Map} (h : UserKeyed u m) {k : Key}
    (hk : ∀ e, k ≠ .vs u e) : Map.get? m k = none :=
  Map.get?_eq_none.2 fun r hr e => hk (epochOf r) (e ▸ h r hr)

theorem KU_view {s : State} (hd : s.db.KU) (u : Nat) : Map.KU (view s u) := by
  unfold view
  split
  · exact Map.KU_setAll (hd.filter _) _
  · exact hd.filter _

theorem userKeyed_view (s : State) (u : Nat) : UserKeyed u (view s u) := by
  unfold view
  split
  · exact (userKeyed_userStates _ _).setAll (userKeyed_userStates _ _)
  · exact userKeyed_userStates _ _

theorem mem_setAll_tombUpd {V : Map} (hV : V.KU) (cut : Nat) (r : Rec) :
    r ∈ V.setAll (tombUpd cut V) ↔ ∃ r0 ∈ V, r = tombOne cut r0 := by
  unfold tombOne
  rw [Map.mem_setAll_iff hV (KU_tombUpd hV cut), Map.get?_eq_none]
  constructor
  · rintro (hr | ⟨hr, hn⟩)
    · obtain ⟨r0, h0, hs, rfl⟩ := mem_tombUpd.1 hr
      exact ⟨r0, h0, by rw [if_pos hs]⟩
    · refine ⟨r, hr, ?_⟩
      by_cases hs : epochOf r ≤ cut ∧ r.payload ≠ 0
      · exact absurd rfl (hn { r with payload := 0 } (mem_tombUpd.2 ⟨r, hr, hs, rfl⟩))
      · rw [if_neg hs]
  · rintro ⟨r0, h0, rfl⟩
    by_cases hs : epochOf r0 ≤ cut ∧ r0.payload ≠ 0
    · rw [if_pos hs]
      exact Or.inl (mem_tombUpd.2 ⟨r0, h0, hs, rfl⟩)
    · rw [if_neg hs]
      refine Or.inr ⟨h0, ?_⟩
      intro y hy hk
      obtain ⟨y0, hy0, hys, rfl⟩ := mem_tombUpd.1 hy
      have : y0 = r0 := Map.KU_unique hV hy0 h0 hk
      exact hs (this ▸ hys)

/-- the batch goes to the log inside a transaction, to the database outside; in the early exit of `tombstone`
the batch is empty, so the same equations hold -/
theorem tombstone_fields (s : State) (u cut : Nat) :
    (s.tombstone fixed u cut false).1.active = s.active ∧
    (s.tombstone fixed u cut false).1.log =
      (if s.active then s.log.setAll (tombUpd cut (view s u)) else s.log) ∧
    (s.tombstone fixed u cut false).1.db =
      (if s.active then s.db else s.db.setAll (tombUpd cut (view s u))) := by
  rw [tombstone_eq]
  split
  · rename_i he
    simp only [Bool.and_eq_true, List.isEmpty_iff, Bool.not_eq_true'] at he
    rw [he.1, he.2]
    exact ⟨rfl, rfl, rfl⟩
  · refine ⟨batchSet_keeps_active .., ?_⟩
    cases ha : s.active with
    | true => rw [batchSet_active fixed s _ false ha]; exact ⟨rfl, rfl⟩
    | false => rw [batchSet_idle s _ false ha]; exact ⟨cachePutAll_log .., cachePutAll_db ..⟩

theorem mem_view_tombstone (s : State) (hd : s.db.KU) (hl : s.log.KU) (u cut : Nat) (r : Rec) :
    r ∈ view (s.tombstone fixed u cut false).1 u ↔
      r ∈ Map.setAll (view s u) (tombUpd cut (view s u)) := by
  obtain ⟨ea, el, ed⟩ := tombstone_fields s u cut
  have hU := KU_tombUpd (KU_view hd u) cut
  have hUk := userKeyed_tombUpd (userKeyed_view s u) cut
  generalize tombUpd cut (view s u) = upd at *
  unfold view
  rw [ea, el, ed]
  -- the label's filter commutes with the overwriting and leaves the batch as it is
  cases s.active with
  | true =>
    rw [if_pos rfl, if_pos rfl, if_pos rfl, userStates_setAll, userStates_of_userKeyed hUk]
    exact Map.mem_setAll_assoc (hd.filter _) (hl.filter _) hU r
  | false =>
    rw [if_neg Bool.false_ne_true, if_neg Bool.false_ne_true, if_neg Bool.false_ne_true,
      userStates_setAll, userStates_of_userKeyed hUk]

theorem tombstone_get?_other (s : State) (hd : s.db.KU) (u cut : Nat) (k : Key)
    (hk : ∀ e, k ≠ .vs u e) :
    (s.tombstone fixed u cut false).1.log.get? k = s.log.get? k ∧
    (s.tombstone fixed u cut false).1.db.get? k = s.db.get? k := by
  obtain ⟨_, el, ed⟩ := tombstone_fields s u cut
  have hU := KU_tombUpd (KU_view hd u) cut
  have hn := (userKeyed_tombUpd (userKeyed_view s u) cut).get?_none hk
  rw [el, ed]
  split
  · exact ⟨by rw [Map.get?_setAll _ hU, hn], rfl⟩
  · exact ⟨rfl, by rw [Map.get?_setAll _ hU, hn]⟩

end State
end Akd.Store
