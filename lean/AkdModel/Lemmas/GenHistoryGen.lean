/-
Key history, generation: in a state that represents the specification state,
`Dir.keyHistory` returns the honest history proof over the canonical tree.
-/
import AkdModel.Lemmas.GenLookup
import AkdModel.Lemmas.GenHistoryData
import AkdModel.Lemmas.BatchLemmas
namespace Akd.Gen
open Akd

theorem keyHistory_eval (c : Cfg) (d : Dir) (u : Bytes) (p : HistoryParams) (azks : Azks)
    (data : List ValueState) (first : ValueState) (past future : List Nat)
    (ups : List UpdateProof) (pastP : List MembershipProof) (futP : List NonMembershipProof) (h : Dig)
    (hazks : d.azks = some azks)
    (hne : (d.states.filter (fun s => s.username = u)).isEmpty = false)
    (hdata : (match p with
      | .complete => ((d.states.filter (fun s => s.username = u)).filter (fun s => s.epoch ≤ azks.latestEpoch)).foldr Dir.insertDesc []
      | .mostRecent n => (((d.states.filter (fun s => s.username = u)).filter (fun s => s.epoch ≤ azks.latestEpoch)).foldr Dir.insertDesc []).take n) = data)
    (hfirst : data.head? = some first)
    (hs : data.foldl (fun a s => min a s.version) first.version ≠ 0)
    (he : data.foldl (fun a s => max a s.version) first.version ≠ 0)
    (hm : Marker.markers? (data.foldl (fun a s => min a s.version) first.version)
      (data.foldl (fun a s => max a s.version) first.version) azks.latestEpoch = some (past, future))
    (hups : data.mapM (Dir.updateProof c d azks u) = .ok ups)
    (hpast : past.mapM (fun v => do
        let l ← d.vrfLabel u true v
        Dir.liftT (d.nodes.membershipProof c azks l)) = .ok pastP)
    (hfut : future.mapM (fun v => do
        let l ← d.vrfLabel u true v
        Dir.liftT (d.nodes.nonMembershipProof c azks l)) = .ok futP)
    (hroot : d.nodes.rootHash c azks = .ok h) :
    d.keyHistory c u p = .ok (⟨ups, past.map (fun v => some ⟨u, true, v⟩), pastP,
           future.map (fun v => some ⟨u, true, v⟩), futP⟩, azks.latestEpoch, h) := by
  unfold Dir.keyHistory
  simp only [bind, Except.bind, Dir.liftT] at hpast hfut
  cases p <;>
  · simp only at hdata
    subst hdata
    simp only [hazks, hne, bind, Except.bind, pure, Except.pure, hfirst, hs, he, hm, hups, hpast, hfut,
      hroot, Dir.liftT, Bool.false_eq_true, if_false, Bool.or_self, decide_false]

/-- what `Dir.updateProof` returns for the version `v` of `u`, written with the proofs of the canonical tree -/
def honestUpdate (c : Cfg) (key : Dig) (vrf : VrfTable) (t : CRoot) (u : Bytes) (v : Spec.Ver) : UpdateProof :=
  ⟨v.epoch, v.value, v.version, some ⟨u, true, v.version⟩, t.genMembership c (lab vrf u true v.version).bits,
    if v.version > 1 then some (some ⟨u, false, v.version - 1⟩) else none,
    if v.version > 1 then some (t.genMembership c (lab vrf u false (v.version - 1)).bits) else none,
    c.nonce key (lab vrf u true v.version) v.version v.value⟩

theorem updateProof_gen (c : Cfg) (d : Dir) (azks : Azks) (t : CRoot) (u : Bytes) (st : ValueState)
    (htot : ∀ f v, 1 ≤ v → v ≤ st.version → (d.vrf.get? ⟨u, f, v⟩).isSome)
    (hgen : ∀ f v l, d.vrf.get? ⟨u, f, v⟩ = some l → d.nodes.membershipProof c azks l = .ok (t.genMembership c l.bits))
    (h1 : 1 ≤ st.version) :
    d.updateProof c azks u st = .ok (honestUpdate c d.commitmentKey d.vrf t u (verOf st)) := by
  obtain ⟨le, hle⟩ := Option.isSome_iff_exists.1 (htot true st.version h1 (Nat.le_refl _))
  unfold Dir.updateProof honestUpdate
  by_cases hgt : st.version > 1
  · obtain ⟨lp, hlp⟩ := Option.isSome_iff_exists.1 (htot false (st.version - 1) (Nat.le_sub_of_add_le hgt) (Nat.sub_le _ _))
    simp only [bind, Except.bind, pure, Except.pure, Dir.vrfLabel, hle, hlp, hgen _ _ _ hle, hgen _ _ _ hlp,
      Dir.liftT, verOf, hgt, if_true, lab_eq hle, lab_eq hlp]
  · simp only [bind, Except.bind, pure, Except.pure, Dir.vrfLabel, hle, hgen _ _ _ hle,
      Dir.liftT, verOf, hgt, if_false, lab_eq hle]

/-- what `Dir.keyHistory` returns for the entries `ex` and the marker versions `past`, `future` -/
def honestHistory (c : Cfg) (key : Dig) (vrf : VrfTable) (t : CRoot) (u : Bytes) (ex : List Spec.Ver)
    (past future : List Nat) : HistoryProof :=
  ⟨ex.map (honestUpdate c key vrf t u), past.map (fun v => some ⟨u, true, v⟩),
    past.map (fun v => t.genMembership c (lab vrf u true v).bits),
    future.map (fun v => some ⟨u, true, v⟩),
    future.map (fun v => t.genNonMembership c (lab vrf u true v).bits)⟩

theorem markers_bounds {s e E : Nat} {past future : List Nat} (h : Marker.markers? s e E = some (past, future)) :
    (∀ x ∈ past, 1 ≤ x ∧ x < s) ∧ (∀ x ∈ future, e < x ∧ x ≤ E) := by
  obtain ⟨h1, h2⟩ := Snd.markers_eq_some.1 h
  exact ⟨fun x hx => Marker.past_bounds (s := s) (by rw [h1]; exact hx),
    fun x hx => Marker.future_bounds (n := e) (E := E) (by rw [h2]; exact hx)⟩

theorem markerProofs_gen {α} (d : Dir) (u : Bytes) (prove : NodeLabel → Except Err α) (gen : BitStr → α)
    (hgen : ∀ v l, d.vrf.get? ⟨u, true, v⟩ = some l → prove l = .ok (gen l.bits))
    (ms : List Nat) (htot : ∀ v ∈ ms, (d.vrf.get? ⟨u, true, v⟩).isSome) :
    ms.mapM (fun v => do
        let l ← d.vrfLabel u true v
        Dir.liftT (prove l)) = .ok (ms.map fun v => gen (lab d.vrf u true v).bits) := by
  apply InExcept.mapM_map_ok_of_forall
  intro v hv
  obtain ⟨l, hl⟩ := Option.isSome_iff_exists.1 (htot v hv)
  simp only [bind, Except.bind, Dir.vrfLabel, hl, hgen v l hl, Dir.liftT, lab_eq hl]

/-- The history request of a published label returns the honest proof for the expected entries, with the
markers of their version range `[L + 1 - k, L]`.  Stated for value states rewritten by a map `f` that keeps
name, epoch and version — tombstoning is such a map; `g` is what `f` does to the entries. -/
theorem keyHistory_gen_map (c : Cfg) (d : Dir) (sp : Spec.State) (users : List Bytes) (N : Nat)
    (hv : C06.VrfOK d.vrf) (ht : C01.VrfTotal d.vrf users N) (hN : sp.epoch + 1 ≤ N)
    (href : C01.Refines c d sp) (u : Bytes) (hmem : u ∈ users) (hpub : sp.table.get u ≠ [])
    (p : HistoryParams) (hp : ∀ n, p = .mostRecent n → 1 ≤ n)
    (f : ValueState → ValueState) (g : Spec.Ver → Spec.Ver)
    (hfu : ∀ s, (f s).username = s.username) (hfe : ∀ s, (f s).epoch = s.epoch)
    (hfv : ∀ s, (f s).version = s.version) (hfg : ∀ s, s.username = u → verOf (f s) = g (verOf s)) :
    ∃ past future,
      Marker.markers? ((sp.table.get u).length + 1 - (C07.expected (sp.table.get u) p).length)
        (sp.table.get u).length sp.epoch = some (past, future) ∧
      Dir.keyHistory c { d with states := d.states.map f } u p = .ok (honestHistory c d.commitmentKey d.vrf
          (CRoot.ofLeaves (Spec.leaves c d.commitmentKey d.vrf sp.table)) u
          ((C07.expected (sp.table.get u) p).map g) past future,
        sp.epoch, Spec.rootHash c d.commitmentKey d.vrf sp) := by
  obtain ⟨n, hazks⟩ := href.azks
  have hV : Pub.VersOK (sp.table.get u) := (href.versions u).1
  have hEp := (href.versions u).2
  have hlen := Pub.versOK_length_le hV _ hEp
  have hsorted := sorted_states_eq d sp sp.epoch href.states u hV (fun v hvm => (hEp v hvm).2)
  -- the value states collected, before `f`: they stand for the expected entries
  obtain ⟨data, hdata, hmap, huser⟩ : ∃ data : List ValueState, (match (generalizing := false) p with
      | .complete => (((d.states.map f).filter (fun s : ValueState => s.username = u)).filter
          (fun s : ValueState => s.epoch ≤ sp.epoch)).foldr Dir.insertDesc []
      | .mostRecent n => ((((d.states.map f).filter (fun s : ValueState => s.username = u)).filter
          (fun s : ValueState => s.epoch ≤ sp.epoch)).foldr Dir.insertDesc []).take n) = data.map f ∧
      data.map verOf = C07.expected (sp.table.get u) p ∧ ∀ s ∈ data, s.username = u := by
    have hu : ∀ s ∈ ((d.states.filter (fun s : ValueState => s.username = u)).filter
        (fun s : ValueState => s.epoch ≤ sp.epoch)).foldr Dir.insertDesc [], s.username = u := fun s hs => by
      simpa using (List.mem_filter.1 (List.mem_filter.1 ((mem_sortDesc s _).1 hs)).1).2
    rw [sorted_states_map f hfu hfe]
    cases p with
    | complete => exact ⟨_, rfl, hsorted, hu⟩
    | mostRecent r =>
      exact ⟨_, (List.map_take).symm, by rw [List.map_take, hsorted]; rfl, fun s hs => hu s (List.mem_of_mem_take hs)⟩
  -- from here on every step of `keyHistory` is computed by itself (version range, markers, the three `mapM`s, the
  -- root hash) and handed to `keyHistory_eval`
  have hD := expected_descFrom (sp.table.get u) hV hpub p hp
  have hvers : (C07.expected (sp.table.get u) p).map (·.version) = (data.map f).map (·.version) := by
    rw [← hmap, List.map_map, List.map_map]
    exact List.map_congr_left fun s _ => (hfv s).symm
  have hk : (C07.expected (sp.table.get u) p).length = data.length := by rw [← hmap, List.length_map]
  rw [hvers] at hD
  obtain ⟨first, hfirst⟩ : ∃ first, (data.map f).head? = some first := by
    cases data with
    | nil => exact absurd hD.pos (by simp)
    | cons s _ => exact ⟨f s, rfl⟩
  obtain ⟨hmin, hmax⟩ := hD.min_max hfirst
  have hpos := hD.pos
  have hkL := hD.le
  simp only [List.length_map] at hmin hpos hkL
  have hstart : 1 ≤ (sp.table.get u).length + 1 - data.length ∧
      (sp.table.get u).length + 1 - data.length ≤ (sp.table.get u).length :=
    ⟨Nat.le_sub_of_add_le' (Nat.add_le_add_right hkL 1), Nat.sub_le_of_le_add (Nat.add_le_add_left hpos _)⟩
  obtain ⟨⟨past, future⟩, hm⟩ := Option.isSome_iff_exists.1
    (C08.markers_no_panic _ (sp.table.get u).length sp.epoch hstart.1 hstart.2 hlen)
  obtain ⟨hpb, hfb⟩ := markers_bounds hm
  have htot : ∀ b v, 1 ≤ v → v ≤ sp.epoch → (d.vrf.get? ⟨u, b, v⟩).isSome := fun b v h1 h2 =>
    ht u hmem b v h1 (Nat.le_trans h2 (Nat.le_of_succ_le hN))
  have hgen := fun l hl => refines_gen c d sp hv href n l hl
  refine ⟨past, future, by rw [hk]; exact hm, ?_⟩
  have hne : (({ d with states := d.states.map f } : Dir).states.filter (fun s => s.username = u)).isEmpty = false := by
    obtain ⟨v, hvm⟩ := List.exists_mem_of_ne_nil _ hpub
    obtain ⟨s, hs, hsu, -⟩ := href.states.2.1 u v hvm
    exact List.isEmpty_eq_false_iff_exists_mem.2
      ⟨f s, List.mem_filter.2 ⟨List.mem_map_of_mem hs, by simpa [hfu] using hsu⟩⟩
  have hups : (data.map f).mapM (Dir.updateProof c d ⟨sp.epoch, n⟩ u) = .ok
      ((data.map f).map fun s => honestUpdate c d.commitmentKey d.vrf
        (CRoot.ofLeaves (Spec.leaves c d.commitmentKey d.vrf sp.table)) u (verOf s)) := by
    apply InExcept.mapM_map_ok_of_forall
    intro x hx
    obtain ⟨s, hs, rfl⟩ := List.mem_map.1 hx
    have hx' := C06.VersionsOK.version_le hV (expected_mem _ p (by rw [← hmap]; exact List.mem_map_of_mem hs))
    simp only [verOf] at hx'
    exact updateProof_gen c d _ _ u (f s) (fun b v h1 h2 => htot b v h1 (Nat.le_trans h2 (hfv s ▸ Nat.le_trans hx'.2 hlen)))
      (fun b v l hl => (hgen l (hv.len _ _ hl)).2.1) (by rw [hfv]; exact hx'.1)
  rw [keyHistory_eval c { d with states := d.states.map f } u p ⟨sp.epoch, n⟩ (data.map f) first
    past future _ _ _ _ hazks hne hdata hfirst (by rw [hmin]; exact Nat.ne_of_gt hstart.1)
    (by rw [hmax]; exact Nat.ne_of_gt (Nat.lt_of_lt_of_le hpos hkL)) (by rw [hmin, hmax]; exact hm)
    hups
    (markerProofs_gen d u _ _ (fun v l hl => (hgen l (hv.len _ _ hl)).2.1) past
      fun x hx => htot true x (hpb x hx).1
        (Nat.le_trans (Nat.le_of_lt (hpb x hx).2) (Nat.le_trans hstart.2 hlen)))
    (markerProofs_gen d u _ _ (fun v l hl => (hgen l (hv.len _ _ hl)).2.2) future
      fun x hx => htot true x (Nat.zero_lt_of_lt (hfb x hx).1) (hfb x hx).2)
    (C01.rootHash_of_reprRoot c .directory d.nodes _ sp.epoch n href.tree (refines_tree_facts c d sp hv href).2.2)]
  simp only [honestHistory, ← hmap, List.map_map]
  congr 3
  exact List.map_congr_left fun s hs => by simp only [Function.comp, hfg s (huser s hs)]

theorem keyHistory_gen (c : Cfg) (d : Dir) (sp : Spec.State) (users : List Bytes) (N : Nat)
    (hv : C06.VrfOK d.vrf) (ht : C01.VrfTotal d.vrf users N) (hN : sp.epoch + 1 ≤ N)
    (href : C01.Refines c d sp) (u : Bytes) (hmem : u ∈ users) (hpub : sp.table.get u ≠ [])
    (p : HistoryParams) (hp : ∀ n, p = .mostRecent n → 1 ≤ n) :
    ∃ past future,
      Marker.markers? ((sp.table.get u).length + 1 - (C07.expected (sp.table.get u) p).length)
        (sp.table.get u).length sp.epoch = some (past, future) ∧
      d.keyHistory c u p = .ok (honestHistory c d.commitmentKey d.vrf
          (CRoot.ofLeaves (Spec.leaves c d.commitmentKey d.vrf sp.table)) u
          (C07.expected (sp.table.get u) p) past future,
        sp.epoch, Spec.rootHash c d.commitmentKey d.vrf sp) := by
  have := keyHistory_gen_map c d sp users N hv ht hN href u hmem hpub p hp id id
    (fun _ => rfl) (fun _ => rfl) (fun _ => rfl) (fun _ _ => rfl)
  simpa only [List.map_id] using this

end Akd.Gen
