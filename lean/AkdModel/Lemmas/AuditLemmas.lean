/-
The auditor (`Auditor.consecutive`, `Auditor.verify`): what acceptance means, node lists the rebuild
is understood on (`Good`), and the corner of a node labelled with the empty bit string.
-/
import AkdModel.Verify
import AkdModel.Thm.C01b
import AkdModel.Thm.C05
import AkdModel.Lemmas.AuditLabels
import AkdModel.Lemmas.AuditRebuild
import AkdModel.Lemmas.AuditFrontier
namespace Akd.Aud
open Akd

theorem appendOnlyHash_ok (c : Cfg) (nodes : List AzksElement) (expected : Dig) (latest : Option Nat) :
    Auditor.appendOnlyHash c nodes expected latest = .ok () ↔
      Auditor.rebuildRoot c nodes latest = .ok expected := by
  unfold Auditor.appendOnlyHash
  cases Auditor.rebuildRoot c nodes latest with
  | error e => simp
  | ok r => by_cases hr : r = expected <;> simp [hr]

/-- what the auditor does to an inserted element before the second rebuild -/
def rehash (c : Cfg) (ep : Nat) (x : AzksElement) : AzksElement := ⟨x.label, c.leafHash x.value ep⟩

/-- the repaired auditor is the auditor of the pinned commit behind the label check -/
theorem consecutive_eq (c : Cfg) (p : NodeStore.SingleAppendOnlyProof) (s e : Dig) (ep : Nat) :
    Auditor.consecutive c p s e ep =
      if !Auditor.labelsPrefixFree ((p.unchanged ++ p.inserted).map (·.label)) then .error .audit
      else Auditor.consecutiveLegacy c p s e ep := by
  unfold Auditor.consecutive Auditor.consecutiveLegacy
  rfl

theorem consecutiveLegacy_ok (c : Cfg) (p : NodeStore.SingleAppendOnlyProof) (s e : Dig) (ep : Nat) :
    Auditor.consecutiveLegacy c p s e ep = .ok () ↔
      Auditor.rebuildRoot c p.unchanged none = .ok s ∧ ep ≠ 0 ∧
      Auditor.rebuildRoot c (p.unchanged ++ p.inserted.map (rehash c ep)) (some (ep - 1)) = .ok e := by
  simp only [← appendOnlyHash_ok, Auditor.consecutiveLegacy]
  cases Auditor.appendOnlyHash c p.unchanged s none with
  | error x => simp
  | ok u =>
    by_cases h0 : ep = 0
    · simp [h0]
    · simp only [h0, ↓reduceIte, ne_eq, not_false_eq_true, true_and]
      rfl

theorem consecutive_ok (c : Cfg) (p : NodeStore.SingleAppendOnlyProof) (s e : Dig) (ep : Nat) :
    Auditor.consecutive c p s e ep = .ok () ↔
      Auditor.labelsPrefixFree ((p.unchanged ++ p.inserted).map (·.label)) = true ∧
      Auditor.rebuildRoot c p.unchanged none = .ok s ∧ ep ≠ 0 ∧
      Auditor.rebuildRoot c (p.unchanged ++ p.inserted.map (rehash c ep)) (some (ep - 1)) = .ok e := by
  rw [consecutive_eq, ← consecutiveLegacy_ok]
  cases Auditor.labelsPrefixFree ((p.unchanged ++ p.inserted).map (·.label)) <;> simp

theorem go_ok (c : Cfg) : ∀ (hs : List Dig) (prs : List NodeStore.SingleAppendOnlyProof) (eps : List Nat),
    Auditor.verify.go c hs prs eps = .ok () ↔
      ∀ i h₀ h₁ pr ep, hs[i]? = some h₀ → hs[i + 1]? = some h₁ → prs[i]? = some pr → eps[i]? = some ep →
        Auditor.consecutive c pr h₀ h₁ (ep + 1) = .ok ()
  -- a list too short: `go` stops with `.ok ()`, and there is no index to speak of
  | [], _, _ => ⟨fun _ _ _ _ _ _ h => (by simp only [List.getElem?_nil, reduceCtorEq] at h), fun _ => rfl⟩
  | [_], _, _ =>
    ⟨fun _ _ _ _ _ _ _ h => (by simp only [List.getElem?_cons_succ, List.getElem?_nil, reduceCtorEq] at h), fun _ => rfl⟩
  | _ :: _ :: _, [], _ => ⟨fun _ _ _ _ _ _ _ _ h => (by simp only [List.getElem?_nil, reduceCtorEq] at h), fun _ => rfl⟩
  | _ :: _ :: _, _ :: _, [] =>
    ⟨fun _ _ _ _ _ _ _ _ _ h => (by simp only [List.getElem?_nil, reduceCtorEq] at h), fun _ => rfl⟩
  | a :: b :: hs, pr :: prs, ep :: eps => by
    rw [Auditor.verify.go]
    cases hcons : Auditor.consecutive c pr a b (ep + 1) with
    | error x =>
      simp only [reduceCtorEq, false_iff]
      intro h
      have := h 0 a b pr ep rfl rfl rfl rfl
      rw [hcons] at this
      cases this
    | ok u =>
      simp only [go_ok c (b :: hs) prs eps]
      constructor
      · intro h i
        cases i with
        | zero =>
          intro h₀ h₁ pr' ep' e1 e2 e3 e4
          simp only [List.getElem?_cons_zero, List.getElem?_cons_succ, Option.some.injEq] at e1 e2 e3 e4
          subst e1 e2 e3 e4
          exact hcons
        | succ i => simpa only [List.getElem?_cons_succ] using h i
      · intro h i
        simpa only [List.getElem?_cons_succ] using h (i + 1)

theorem verify_ok (c : Cfg) (hs : List Dig) (p : NodeStore.AppendOnlyProof) :
    Auditor.verify c hs p = .ok () ↔
      p.epochs.length + 1 = hs.length ∧ p.epochs.length = p.proofs.length ∧
      ∀ i h₀ h₁ pr ep, hs[i]? = some h₀ → hs[i + 1]? = some h₁ → p.proofs[i]? = some pr → p.epochs[i]? = some ep →
        Auditor.consecutive c pr h₀ h₁ (ep + 1) = .ok () := by
  simp only [Auditor.verify, ← go_ok, ne_eq, ite_not]
  split
  · split
    · next h1 h2 => exact ⟨fun h => ⟨h1, h2, h⟩, fun h => h.2.2⟩
    · next h1 h2 => exact ⟨nofun, fun h => absurd h.2.1 h2⟩
  · next h1 => exact ⟨nofun, fun h => absurd h.1 h1⟩

/-- a node as an opaque leaf -/
def toLeaf (n : AzksElement) : Leaf := ⟨n.label.bits, n.value, 0⟩

/-- the canonical trie of opaque elements over a node list -/
def frontierOf (ns : List AzksElement) : CRoot := CRoot.ofLeaves (ns.map toLeaf)

structure Good (ns : List AzksElement) : Prop where
  norm : ∀ n ∈ ns, n.label.len ≤ 256 ∧ n.label.Normalised
  pos : ∀ n ∈ ns, 1 ≤ n.label.len
  pf : ns.Pairwise (fun a b => ¬ a.label.bits <+: b.label.bits ∧ ¬ b.label.bits <+: a.label.bits)

theorem good_iff (ns : List AzksElement) :
    Good ns ↔ Auditor.labelsPrefixFree (ns.map (·.label)) = true ∧ ∀ l ∈ ns.map (·.label), 1 ≤ l.len := by
  rw [labelsPrefixFree_iff, List.pairwise_map]
  simp only [List.forall_mem_map]
  exact ⟨fun g => ⟨⟨g.norm, g.pf⟩, g.pos⟩, fun ⟨⟨hn, hp⟩, hpos⟩ => ⟨hn, hpos, hp⟩⟩

theorem Good.of_labels {ns ms : List AzksElement} (h : Good ns) (e : ms.map (·.label) = ns.map (·.label)) :
    Good ms := by
  rw [good_iff] at h ⊢
  rwa [e]

theorem Good.sublist {ns ms : List AzksElement} (h : Good ns) (hs : ms.Sublist ns) : Good ms :=
  ⟨fun n hn => h.norm n (hs.subset hn), fun n hn => h.pos n (hs.subset hn), h.pf.sublist hs⟩

theorem toLeaf_length (n : AzksElement) : (toLeaf n).lbl.length ≤ 256 := by
  simp only [toLeaf, NodeLabel.bits_length]
  omega

theorem Good.prefixFree {ns : List AzksElement} (h : Good ns) : C01.PrefixFree (ns.map toLeaf) := by
  unfold C01.PrefixFree
  rw [List.pairwise_map]
  exact h.pf

theorem Good.spec {ns : List AzksElement} (h : Good ns) :
    (frontierOf ns).WF ∧ (frontierOf ns).leaves.Perm (ns.map toLeaf) := by
  refine C01.ofLeaves_spec _ h.prefixFree fun x hx h0 => ?_
  obtain ⟨n, hn, rfl⟩ := List.mem_map.mp hx
  have h1 := NodeLabel.bits_length_of_le n.label (h.norm n hn).1
  have h2 := h.pos n hn
  rw [show n.label.bits = [] from h0] at h1
  simp only [List.length_nil] at h1
  omega

theorem Good.len_le {ns : List AzksElement} (h : Good ns) : ∀ lf ∈ (frontierOf ns).leaves, lf.lbl.length ≤ 256 := by
  intro lf hlf
  obtain ⟨n, _, rfl⟩ := List.mem_map.mp (h.spec.2.mem_iff.mp hlf)
  exact toLeaf_length n

theorem Good.rebuild {ns : List AzksElement} (h : Good ns) (c : Cfg) (hc : c.emptyLabel.len = 0)
    (latest : Option Nat) :
    Auditor.rebuildRoot c ns latest = .ok (c.rootHash ((frontierOf ns).value c .noLeafEpoch)) := by
  have e : (ns.map fun n => (n.label.bits, n.value)).map (fun x => (⟨NodeLabel.ofBits x.1, x.2⟩ : AzksElement)) = ns := by
    rw [List.map_map]
    refine (List.map_congr_left fun n hn => ?_).trans (List.map_id ns)
    simp only [Function.comp_apply, id_eq, C17.ofBits_bits n.label (h.norm n hn).1 (h.norm n hn).2]
  have := rebuildRoot_canonical c hc (ns.map fun n => (n.label.bits, n.value)) latest
    (by rw [List.map_map]; exact h.prefixFree) (by
      intro x hx
      obtain ⟨n, hn, rfl⟩ := List.mem_map.mp hx
      simp only [NodeLabel.bits_length_of_le n.label (h.norm n hn).1]
      exact ⟨h.pos n hn, (h.norm n hn).1⟩)
  rwa [e, List.map_map] at this

/-- the root over two empty slots, which the rebuild returns for such an element alone (`rebuildRoot_rootLabel`), is the
root value of no trie: the empty trie has `emptyRootValue`, any other has a child -/
theorem value_ne_emptySlots (c : Cfg) (hc : c.Lawful) (T : CRoot) :
    T.value c .withLeafEpoch ≠ c.parentHash c.emptyNodeHash c.emptyLabel c.emptyNodeHash c.emptyLabel := by
  rcases CRoot.not_empty_cases T with he | he
  · rw [CRoot.value_empty c _ T he]
    exact (hc.parent_ne_emptyRoot _ _ _ _).symm
  · rw [CRoot.value_eq_parent c _ T he]
    intro h
    obtain ⟨hl, _, hr, _⟩ := hc.parent_inj _ _ _ _ _ _ _ _ h
    obtain ⟨tl, tr⟩ := T
    cases tl with
    | some a => exact Canon.Tree.azks_ne_emptyNode c hc a hl
    | none =>
      cases tr with
      | some b => exact Canon.Tree.azks_ne_emptyNode c hc b hr
      | none => simp at he

theorem normalised_len0 (l : NodeLabel) (h0 : l.len = 0) (hn : l.Normalised) : l = NodeLabel.root := by
  have h1 := C17.ofBits_bits l (by omega) hn
  have h2 : l.bits = [] := List.eq_nil_of_length_eq_zero (by rw [NodeLabel.bits_length]; omega)
  rw [h2, NodeLabel.ofBits_nil] at h1
  exact h1.symm

theorem singleton_of_nil {L : List AzksElement}
    (hpw : L.Pairwise (fun a b => ¬ a.label.bits <+: b.label.bits ∧ ¬ b.label.bits <+: a.label.bits))
    {x : AzksElement} (hx : x ∈ L) (h0 : x.label.bits = []) : L = [x] := by
  obtain ⟨s, t, rfl⟩ := List.append_of_mem hx
  rw [List.pairwise_append, List.pairwise_cons] at hpw
  obtain ⟨_, ⟨hxt, _⟩, hsx⟩ := hpw
  have hs : s = [] := List.eq_nil_iff_forall_not_mem.mpr fun y hy =>
    (hsx y hy x List.mem_cons_self).2 (h0 ▸ List.nil_prefix)
  have ht : t = [] := List.eq_nil_iff_forall_not_mem.mpr fun y hy => (hxt y hy).1 (h0 ▸ List.nil_prefix)
  rw [hs, ht]
  rfl

end Akd.Aud
