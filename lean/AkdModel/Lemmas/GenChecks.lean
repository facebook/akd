/-
The honest proofs pass the base checks of the client verifiers: over a tree that is honest for a
label (`C06.HonestFor`), the generated membership proof of a version's fresh leaf, of a superseded
version's stale leaf, and the generated non-membership proof of a version that does not exist (or
has not been superseded) are accepted.  Lookup and history verification are built from these.
-/
import AkdModel.Thm.C06
namespace Akd.Gen
open Akd

def lab (vrf : VrfTable) (u : Bytes) (f : Bool) (v : Nat) : NodeLabel := (vrf.get? ⟨u, f, v⟩).getD default

theorem lab_eq {vrf : VrfTable} {u : Bytes} {f : Bool} {v : Nat} {l : NodeLabel} (h : vrf.get? ⟨u, f, v⟩ = some l) :
    lab vrf u f v = l := by simp [lab, h]

theorem genNonMembership_label (c : Cfg) (t : CRoot) (x : BitStr) :
    (t.genNonMembership c x).label = NodeLabel.ofBits x := by
  unfold CRoot.genNonMembership
  split
  rfl

section
variable {c : Cfg} {key : Dig} {vrf : VrfTable} {t : CRoot} {u : Bytes} {vs : List Spec.Ver}

theorem existence_leaf (hv : C06.VrfOK vrf) (hwf : t.WF) {f : Bool} {ver : Nat} {l : NodeLabel}
    (hl : vrf.get? ⟨u, f, ver⟩ = some l) {lf : Leaf} (hlf : lf ∈ t.leaves) (hlbl : lf.lbl = l.bits) :
    (t.genMembership c l.bits).hashVal = c.leafHash lf.value lf.ep ∧
    Verify.existence c vrf (t.rootHash c) u f ver (some ⟨u, f, ver⟩) (t.genMembership c l.bits) = .ok () := by
  have he := C05.membership_complete_leaf c t hwf lf hlf
  rw [hlbl, Snd.ofBits_bits_256 l (hv.len _ _ hl)] at he
  exact ⟨he.2, Snd.existence_iff.2 ⟨rfl, by rw [he.1]; exact hl, C05.membership_complete c t l.bits⟩⟩

theorem nonexistence_absent (hc : c.Lawful) (hfresh : C05.EmptyLabelFresh c) (hv : C06.VrfOK vrf) (hwf : t.WF)
    (h256 : C05.Leaves256 t) (hne : t ≠ CRoot.empty) {f : Bool} {ver : Nat} {l : NodeLabel}
    (hl : vrf.get? ⟨u, f, ver⟩ = some l) (hnot : ∀ lf ∈ t.leaves, lf.lbl ≠ l.bits) :
    Verify.nonexistence c vrf (t.rootHash c) u f ver (some ⟨u, f, ver⟩) (t.genNonMembership c l.bits) = .ok () := by
  have hlen := hv.len _ _ hl
  refine Snd.nonexistence_iff.2 ⟨rfl, ?_, C05.nonmembership_complete c hc hfresh t hwf h256 hne l.bits
    (Snd.bits_length_256 l hlen) hnot⟩
  rw [genNonMembership_label, Snd.ofBits_bits_256 l hlen]
  exact hl

theorem ne_empty_of_honest (hon : C06.HonestFor c key vrf t u vs) (hne : vs ≠ []) : t ≠ CRoot.empty := by
  obtain ⟨v, hv⟩ := List.exists_mem_of_ne_nil vs hne
  obtain ⟨l, -, hleaf⟩ := hon.fresh_present v hv
  intro h
  rw [h] at hleaf
  simp [CRoot.empty, CRoot.leaves] at hleaf

theorem fresh_existence (hv : C06.VrfOK vrf) (hwf : t.WF) (hon : C06.HonestFor c key vrf t u vs)
    (v : Spec.Ver) (hmem : v ∈ vs) :
    (t.genMembership c (lab vrf u true v.version).bits).hashVal
        = c.leafHash (c.commit v.value (c.nonce key (lab vrf u true v.version) v.version v.value)) v.epoch ∧
    Verify.existence c vrf (t.rootHash c) u true v.version (some ⟨u, true, v.version⟩)
      (t.genMembership c (lab vrf u true v.version).bits) = .ok () := by
  obtain ⟨l, hl, hleaf⟩ := hon.fresh_present v hmem
  rw [lab_eq hl]
  exact existence_leaf hv hwf hl hleaf rfl

theorem stale_existence (hv : C06.VrfOK vrf) (hwf : t.WF) (hon : C06.HonestFor c key vrf t u vs)
    (v : Spec.Ver) (hmem : v ∈ vs) (hgt : v.version > 1)
    (hsome : (vrf.get? ⟨u, false, v.version - 1⟩).isSome) :
    Verify.existenceWithCommitment c vrf (t.rootHash c) u c.staleValue v.epoch false (v.version - 1)
      (some ⟨u, false, v.version - 1⟩) (t.genMembership c (lab vrf u false (v.version - 1)).bits) = .ok () := by
  obtain ⟨l, hl⟩ := Option.isSome_iff_exists.1 hsome
  have hpos : 1 ≤ v.version - 1 := Nat.le_sub_of_add_le hgt
  have hsucc : v.version - 1 + 1 = v.version := Nat.sub_add_cancel (Nat.le_of_lt hgt)
  obtain ⟨lf, hlf, hlbl⟩ := (hon.stale_iff (v.version - 1) l hpos hl).2 ⟨v, hmem, hsucc.symm⟩
  obtain ⟨hval, w, hw, hwv, hwe⟩ := hon.stale_stamp (v.version - 1) l lf hpos hl hlf hlbl
  obtain rfl : w = v := hon.versions.unique hw hmem (hwv.trans hsucc)
  obtain ⟨h1, h2⟩ := existence_leaf (c := c) hv hwf hl hlf hlbl
  rw [lab_eq hl]
  exact Snd.existenceWithCommitment_iff.2 ⟨by rw [h1, hval, hwe], h2⟩

/-- the check of history's past markers and of lookup's marker version -/
theorem past_existence (hv : C06.VrfOK vrf) (hwf : t.WF) (hon : C06.HonestFor c key vrf t u vs)
    (x : Nat) (h1 : 1 ≤ x) (h2 : x ≤ vs.length) :
    Verify.existence c vrf (t.rootHash c) u true x (some ⟨u, true, x⟩)
      (t.genMembership c (lab vrf u true x).bits) = .ok () := by
  have hi : x - 1 < vs.length := Nat.lt_of_lt_of_le (Nat.sub_lt h1 Nat.one_pos) h2
  have hver : (vs[x - 1]).version = x := by rw [hon.versions.1 _ hi]; exact Nat.sub_add_cancel h1
  have := (fresh_existence hv hwf hon (vs[x - 1]) (List.getElem_mem hi)).2
  rwa [hver] at this

/-- the check of history's future markers -/
theorem future_nonexistence (hc : c.Lawful) (hfresh : C05.EmptyLabelFresh c) (hv : C06.VrfOK vrf) (hwf : t.WF)
    (h256 : C05.Leaves256 t) (hon : C06.HonestFor c key vrf t u vs) (hne : vs ≠ [])
    (x : Nat) (hx : vs.length < x) (hsome : (vrf.get? ⟨u, true, x⟩).isSome) :
    Verify.nonexistence c vrf (t.rootHash c) u true x (some ⟨u, true, x⟩)
      (t.genNonMembership c (lab vrf u true x).bits) = .ok () := by
  obtain ⟨l, hl⟩ := Option.isSome_iff_exists.1 hsome
  rw [lab_eq hl]
  refine nonexistence_absent hc hfresh hv hwf h256 (ne_empty_of_honest hon hne) hl fun lf hlf hlb => ?_
  obtain ⟨w, hw, hwv, -⟩ := hon.fresh_only x l lf hl hlf hlb
  exact Nat.not_le_of_lt hx (hwv ▸ (hon.versions.version_le hw).2)

/-- the freshness check of lookup -/
theorem stale_nonexistence (hc : c.Lawful) (hfresh : C05.EmptyLabelFresh c) (hv : C06.VrfOK vrf) (hwf : t.WF)
    (h256 : C05.Leaves256 t) (hon : C06.HonestFor c key vrf t u vs) (hne : vs ≠ [])
    (hsome : (vrf.get? ⟨u, false, vs.length⟩).isSome) :
    Verify.nonexistence c vrf (t.rootHash c) u false vs.length (some ⟨u, false, vs.length⟩)
      (t.genNonMembership c (lab vrf u false vs.length).bits) = .ok () := by
  obtain ⟨l, hl⟩ := Option.isSome_iff_exists.1 hsome
  have hpos : 1 ≤ vs.length := List.length_pos_iff.2 hne
  rw [lab_eq hl]
  refine nonexistence_absent hc hfresh hv hwf h256 (ne_empty_of_honest hon hne) hl fun lf hlf hlb => ?_
  obtain ⟨w, hw, hwv⟩ := (hon.stale_iff vs.length l hpos hl).1 ⟨lf, hlf, hlb⟩
  exact Nat.not_succ_le_self _ (hwv ▸ (hon.versions.version_le hw).2)

end
end Akd.Gen
