/-
The representation relation between storage and canonical trees, with the node record split off as `NodeIs`
(`Thm/C01b.lean` states its theorems with `C01.Repr`, written out in one piece; `C01.repr_iff`), epoch metadata,
and the frame lemmas: `Rep` only depends on the records under the labels of the tree, so it survives changes
(`Chg`) at other labels.  Before them, `getNode` and `writeNode` on the label-keyed store; reads after writes and
"`writeNode` never fails" are the record-level lemmas of `Lemmas/RecLemmas.lean`.
-/
import AkdModel.Insert
import AkdModel.Lemmas.RecLemmas
import AkdModel.Lemmas.InsertSets
namespace Akd.Ins
open Akd NodeLabel

theorem getNode_cases (s : NodeStore) (k : NodeLabel) (ep : Nat) :
    (∃ n, s.getNode k ep = .ok n) ∨ s.getNode k ep = .error .notFound := by
  unfold NodeStore.getNode
  cases s.getRec k with
  | none => exact .inr rfl
  | some r => exact r.resolve_cases ep

theorem writeNode_total (s : NodeStore) (n : TreeNode) (isNew : Bool) : ∃ s', s.writeNode n isNew = .ok s' :=
  let ⟨_, h⟩ := s.writeNode_ok n isNew; ⟨_, h⟩

theorem getRec_writeNode_self {s s' : NodeStore} {n : TreeNode} {isNew : Bool}
    (hw : s.writeNode n isNew = .ok s') : ∃ r, s'.getRec n.label = some r ∧ r.latest = n := by
  obtain ⟨pv, hp⟩ := s.writeNode_ok n isNew
  cases hp.symm.trans hw
  exact ⟨_, s.getRec_setRec_self ⟨n.label, n, pv⟩, rfl⟩

theorem getRec_writeNode_ne {s s' : NodeStore} {n : TreeNode} {isNew : Bool}
    (hw : s.writeNode n isNew = .ok s') {k : NodeLabel} (h : k ≠ n.label) : s'.getRec k = s.getRec k := by
  obtain ⟨pv, hp⟩ := s.writeNode_ok n isNew
  cases hp.symm.trans hw
  exact s.getRec_setRec_ne _ k h

theorem getNode_latest (s : NodeStore) (k : NodeLabel) (r : NodeRec) (ep : Nat)
    (h : s.getRec k = some r) (hep : r.latest.lastEpoch ≤ ep) : s.getNode k ep = .ok r.latest := by
  unfold NodeStore.getNode NodeRec.resolve
  rw [h]
  simp only
  rw [if_neg (by omega)]


def hm : InsertMode → HashMode
  | .directory => .withLeafEpoch
  | .auditor => .noLeafEpoch

def maxEp : CTree → Nat
  | .leaf _ _ e => e
  | .node _ l r => max (maxEp l) (maxEp r)

def minEp : CTree → Nat
  | .leaf _ _ e => e
  | .node _ l r => min (minEp l) (minEp r)

/-- `n` is the node record of the root of `t` -/
def NodeIs (c : Cfg) (m : InsertMode) (t : CTree) (n : TreeNode) : Prop :=
  match t with
  | .leaf q v e =>
    n.label = ofBits q ∧ n.nodeType = .leaf ∧ n.left = none ∧ n.right = none ∧
      n.hash = v ∧ n.lastEpoch = e ∧ n.minDescEpoch = e
  | .node q l r =>
    n.label = ofBits q ∧ n.nodeType = .interior ∧
      n.left = some (ofBits l.lbl) ∧ n.right = some (ofBits r.lbl) ∧
      n.hash = (CTree.node q l r).azks c (hm m) ∧
      n.lastEpoch = maxEp (.node q l r) ∧ n.minDescEpoch = minEp (.node q l r)

def Rep (c : Cfg) (m : InsertMode) (s : NodeStore) : CTree → Prop
  | .leaf q v e => ∃ r, s.getRec (ofBits q) = some r ∧ NodeIs c m (.leaf q v e) r.latest
  | .node q l r' =>
    (∃ r, s.getRec (ofBits q) = some r ∧ NodeIs c m (.node q l r') r.latest) ∧ Rep c m s l ∧ Rep c m s r'

def RepKids (c : Cfg) (m : InsertMode) (s : NodeStore) : CTree → Prop
  | .leaf _ _ _ => True
  | .node _ l r => Rep c m s l ∧ Rep c m s r

theorem rep_iff (c : Cfg) (m : InsertMode) (s : NodeStore) (t : CTree) :
    Rep c m s t ↔ (∃ r, s.getRec (ofBits t.lbl) = some r ∧ NodeIs c m t r.latest) ∧ RepKids c m s t := by
  cases t <;> simp [Rep, RepKids, CTree.lbl]

theorem nodeIs_label {c m t n} (h : NodeIs c m t n) : n.label = ofBits t.lbl := by
  cases t <;> exact h.1

theorem nodeIs_lastEpoch {c m t n} (h : NodeIs c m t n) : n.lastEpoch = maxEp t := by
  cases t <;> exact h.2.2.2.2.2.1

theorem nodeIs_minDesc {c m t n} (h : NodeIs c m t n) : n.minDescEpoch = minEp t := by
  cases t <;> exact h.2.2.2.2.2.2

/-- the `parent` field is not constrained -/
theorem nodeIs_parent {c m t n} (h : NodeIs c m t n) (p : NodeLabel) : NodeIs c m t { n with parent := p } := by
  cases t <;> exact h

theorem le_maxEp : ∀ (t : CTree) (lf : Leaf), lf ∈ t.leaves → lf.ep ≤ maxEp t
  | .leaf _ _ _, _, h => by cases List.mem_singleton.1 h; exact Nat.le_refl _
  | .node _ l r, lf, h => (List.mem_append.1 h).elim
    (fun h => Nat.le_trans (le_maxEp l lf h) (Nat.le_max_left _ _))
    (fun h => Nat.le_trans (le_maxEp r lf h) (Nat.le_max_right _ _))

theorem minEp_le : ∀ (t : CTree) (lf : Leaf), lf ∈ t.leaves → minEp t ≤ lf.ep
  | .leaf _ _ _, _, h => by cases List.mem_singleton.1 h; exact Nat.le_refl _
  | .node _ l r, lf, h => (List.mem_append.1 h).elim
    (fun h => Nat.le_trans (Nat.min_le_left _ _) (minEp_le l lf h))
    (fun h => Nat.le_trans (Nat.min_le_right _ _) (minEp_le r lf h))

theorem maxEp_le (t : CTree) (E : Nat) (h : ∀ lf ∈ t.leaves, lf.ep ≤ E) : maxEp t ≤ E := by
  induction t with
  | leaf q v e => exact h ⟨q, v, e⟩ (List.mem_singleton_self _)
  | node _ l r ihl ihr =>
    exact Nat.max_le.2 ⟨ihl (fun lf hl => h lf (List.mem_append_left _ hl)),
      ihr (fun lf hl => h lf (List.mem_append_right _ hl))⟩

theorem maxEp_eq (t : CTree) (E : Nat) (h : ∀ lf ∈ t.leaves, lf.ep ≤ E) (lf : Leaf) (hm : lf ∈ t.leaves)
    (he : lf.ep = E) : maxEp t = E :=
  Nat.le_antisymm (maxEp_le t E h) (he ▸ le_maxEp t lf hm)

theorem le_minEp (t : CTree) (E : Nat) (h : ∀ lf ∈ t.leaves, E ≤ lf.ep) : E ≤ minEp t := by
  induction t with
  | leaf q v e => exact h ⟨q, v, e⟩ (List.mem_singleton_self _)
  | node _ l r ihl ihr =>
    exact Nat.le_min.2 ⟨ihl (fun lf hl => h lf (List.mem_append_left _ hl)),
      ihr (fun lf hl => h lf (List.mem_append_right _ hl))⟩

theorem rep_congr (c : Cfg) (m : InsertMode) (s s' : NodeStore) : ∀ (t : CTree), t.WF →
    (∀ lf ∈ t.leaves, lf.lbl.length ≤ 256) →
    (∀ b : BitStr, b.length ≤ 256 → t.lbl <+: b → s'.getRec (ofBits b) = s.getRec (ofBits b)) →
    Rep c m s t → Rep c m s' t
  | .leaf q v e, _, hlen, hf, h => by
    obtain ⟨r, h1, h2⟩ := h
    refine ⟨r, ?_, h2⟩
    rw [hf q (hlen ⟨q, v, e⟩ (by simp [CTree.leaves])) (List.prefix_refl _)]
    exact h1
  | .node q l r', hwf, hlen, hf, h => by
    obtain ⟨⟨r, h1, h2⟩, hl, hr⟩ := h
    have hq := Canon.Tree.lbl_length_le hwf hlen
    obtain ⟨pl, pr, wl, wr⟩ := hwf
    refine ⟨⟨r, ?_, h2⟩, ?_, ?_⟩
    · rw [hf q hq (List.prefix_refl _)]; exact h1
    · exact rep_congr c m s s' l wl (fun lf h => hlen lf (by simp [CTree.leaves, h]))
        (fun b hb hp => hf b hb ((Canon.prefix_of_snoc_prefix pl).trans hp)) hl
    · exact rep_congr c m s s' r' wr (fun lf h => hlen lf (by simp [CTree.leaves, h]))
        (fun b hb hp => hf b hb ((Canon.prefix_of_snoc_prefix pr).trans hp)) hr

/-- all writes happened under labels extending `pre` -/
def Frame (pre : BitStr) (s s' : NodeStore) : Prop :=
  ∀ b : BitStr, b.length ≤ 256 → ¬ pre <+: b → s'.getRec (ofBits b) = s.getRec (ofBits b)

theorem Frame.mono {pre pre' : BitStr} {s s' : NodeStore} (h : Frame pre' s s') (hp : pre <+: pre') :
    Frame pre s s' := fun b hb hn => h b hb (fun h' => hn (hp.trans h'))

/-- every key whose record differs between `s` and `s'` is (the storage key of) a label in `L` -/
def Chg (s s' : NodeStore) (L : BitStr → Prop) : Prop :=
  ∀ k, s'.getRec k ≠ s.getRec k → ∃ q, L q ∧ k = ofBits q

theorem Chg.refl (s : NodeStore) (L : BitStr → Prop) : Chg s s L := fun _ h => absurd rfl h

theorem Chg.mono {s s' : NodeStore} {L L' : BitStr → Prop} (h : Chg s s' L) (hL : ∀ q, L q → L' q) : Chg s s' L' :=
  fun k hk => let ⟨q, hq, e⟩ := h k hk; ⟨q, hL q hq, e⟩

theorem Chg.trans {s s' s'' : NodeStore} {L : BitStr → Prop} (h1 : Chg s s' L) (h2 : Chg s' s'' L) : Chg s s'' L := by
  intro k hk
  by_cases h : s'.getRec k = s.getRec k
  · exact h2 k (fun e => hk (e.trans h))
  · exact h1 k h

theorem chg_writeNode {s s' : NodeStore} {n : TreeNode} {isNew : Bool} (hw : s.writeNode n isNew = .ok s')
    {L : BitStr → Prop} (q : BitStr) (hr : n.label = ofBits q) (hq : L q) : Chg s s' L := by
  intro k hk
  by_cases h : k = n.label
  · exact ⟨q, hq, h.trans hr⟩
  · exact absurd (getRec_writeNode_ne hw h) hk

theorem rep_chg {c m s s'} {L : BitStr → Prop} (hchg : Chg s s' L) (t : CTree) (hwf : t.WF)
    (hlen : ∀ lf ∈ t.leaves, lf.lbl.length ≤ 256) (hL : ∀ q, L q → q.length ≤ 256 ∧ ¬ t.lbl <+: q)
    (h : Rep c m s t) : Rep c m s' t := by
  apply rep_congr c m s s' t hwf hlen _ h
  intro b hb hp
  apply Classical.byContradiction
  intro hne
  obtain ⟨q, hq, e⟩ := hchg _ hne
  exact (hL q hq).2 (ofBits_inj hb (hL q hq).1 e ▸ hp)

theorem rep_write {c m s s'} (t : CTree) (hwf : t.WF) (hlen : ∀ lf ∈ t.leaves, lf.lbl.length ≤ 256)
    {n : TreeNode} {isNew : Bool} (hw : s.writeNode n isNew = .ok s') (hn : NodeIs c m t n)
    (hk : RepKids c m s t) : Rep c m s' t := by
  rw [rep_iff]
  have hl := nodeIs_label hn
  obtain ⟨r, hg, hr⟩ := getRec_writeNode_self hw
  refine ⟨⟨r, hl ▸ hg, hr ▸ hn⟩, ?_⟩
  cases t with
  | leaf => trivial
  | node q l r' =>
    have hq := Canon.Tree.lbl_length_le hwf hlen
    obtain ⟨pl, pr, wl, wr⟩ := hwf
    have hchg : Chg s s' (· = q) := chg_writeNode hw q hl rfl
    -- a child's label is longer than `q`
    have hnot : ∀ {d : Bool} {x : CTree}, (q ++ [d]) <+: x.lbl → ∀ q', q' = q → q'.length ≤ 256 ∧ ¬ x.lbl <+: q' := by
      rintro d x hx _ rfl
      refine ⟨hq, fun h => ?_⟩
      have := (hx.trans h).length_le
      simp at this
      omega
    exact ⟨rep_chg hchg l wl (fun lf h => hlen lf (by simp [CTree.leaves, h])) (hnot pl) hk.1,
      rep_chg hchg r' wr (fun lf h => hlen lf (by simp [CTree.leaves, h])) (hnot pr) hk.2⟩

end Akd.Ins
