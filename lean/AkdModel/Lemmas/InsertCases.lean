/-
The induction over `insertRec`: the case analysis of Phase 1 and the induction on fuel.
-/
import AkdModel.Lemmas.InsertMain
namespace Akd.Ins
open Akd NodeLabel NodeStore
open Akd.Canon (Incomp)

/-- empty position, one element: a new leaf (case 2) -/
theorem case_leaf {K : BitStr → Prop} {I : NodeStore → Prop}
    (c : Cfg) (m : InsertMode) (epoch fuel : Nat) (s : NodeStore) (pre : BitStr)
    {set : ElementSet Dig} {b : BitStr × Dig} (hb : Batch set [b] pre) (hti : I s) (hgk : GK K pre none) :
    Concl K I c m epoch (fuel + 1) s pre none set [b] := by
  obtain ⟨hpb, hb256⟩ := hb.under b (List.mem_singleton_self b)
  obtain ⟨bL, bR⟩ := partition_spec (hb.at (p := b.1) (fun x hx => List.mem_singleton.1 hx ▸ List.prefix_refl _)) hb256
  have elL := bL.elems
  have elR := bR.elems
  simp only [List.filter, goes_self, List.map_nil] at elL elR
  refine ⟨s, TreeNode.newLeaf c (ofBits b.1) b.2 epoch, true, 1, .leaf b.1 b.2 epoch, ?_,
    ⟨rfl, rfl, rfl, rfl, rfl, rfl, rfl⟩, trivial, trivial, hpb, by simp [CTree.leaves, oleaves, newLeaves],
    hti, fun _ => gk_none_fresh hgk hpb, Chg.refl _ _, nofun⟩
  rw [insertRec_succ]
  have h1 : phase1 c epoch s (olbl none) set = .ok (s, TreeNode.newLeaf c (ofBits b.1) b.2 epoch, true, 1) := by
    unfold phase1
    rw [hb.elems]; rfl
  rw [h1]
  simp only
  unfold phase23
  have hl : (TreeNode.newLeaf c (ofBits b.1) b.2 epoch).label = ofBits b.1 := rfl
  rw [hl, side_empty _ _ _ _ _ _ elL]
  simp only
  rw [side_empty _ _ _ _ _ _ elR]
  simp only
  unfold updateHash
  rw [if_pos (show (TreeNode.newLeaf c (ofBits b.1) b.2 epoch).nodeType = .leaf from rfl)]

theorem exists_other (l : List Leaf) (hp : l.Pairwise Incomp) (h2 : 2 ≤ l.length) :
    ∀ a ∈ l, ∃ a' ∈ l, ¬ a.lbl <+: a'.lbl := by
  intro a ha
  cases l with
  | nil => simp at h2
  | cons x rest =>
    rw [List.pairwise_cons] at hp
    rcases List.mem_cons.1 ha with rfl | ha'
    · cases rest with
      | nil => simp at h2
      | cons y _ => exact ⟨y, by simp, (hp.1 y (by simp)).1⟩
    · exact ⟨x, by simp, (hp.1 a ha').2⟩

theorem phase1_some (c : Cfg) (hc : c.emptyLabel.len = 0) (epoch : Nat) (s : NodeStore) {q pre : BitStr}
    {ex : TreeNode} {set : ElementSet Dig} {bs : List (BitStr × Dig)}
    (hgn : s.getNode (ofBits q) epoch = .ok ex) (hq : q.length ≤ 256) (hb : Batch set bs pre) (hne : bs ≠ [])
    (h1 : ∀ b ∈ bs, 1 ≤ b.1.length) :
    phase1 c epoch s (some (ofBits q)) set =
      if (BitStr.commonPrefix q (lcpAll bs)).length < q.length then
        match (TreeNode.newInterior c (ofBits (BitStr.commonPrefix q (lcpAll bs))) epoch).setChild ex with
        | .error e => .error e
        | .ok (cur, ex') =>
          match s.writeNode ex' false with
          | .error e => .error e
          | .ok s' => .ok (s', cur, true, 1)
      else .ok (s, ex, false, 0) := by
  unfold phase1
  simp only
  rw [hgn]
  simp only
  rw [setLcp_spec c.emptyLabel hc hb hne h1,
    lcp_ofBits_of_len_zero c.emptyLabel hc _ _ hq (lcpAll_length_le bs hne (fun b h => (hb.under b h).2))]
  rfl

section
variable {K : BitStr → Prop} {I : NodeStore → Prop} (c : Cfg) (m : InsertMode) (epoch fuel : Nat)
  (hc : c.emptyLabel.len = 0) (hep : 1 ≤ epoch) (hI : WriteInv epoch K I) (hspec : Spec K I c m epoch fuel)
include hc hep hI hspec

/-- empty position, at least two elements: a new interior node at the common prefix (case 3) -/
theorem case_interior (s : NodeStore) (pre : BitStr)
    {set : ElementSet Dig} {bs : List (BitStr × Dig)}
    (hfuel : 257 ≤ fuel + 1 + pre.length) (hpre1 : 1 ≤ pre.length)
    (hb : Batch set bs pre) {b1 b2 : BitStr × Dig} {rest : List (BitStr × Dig)} (hbs : bs = b1 :: b2 :: rest)
    (hpf : (newLeaves bs epoch).Pairwise Incomp) (hti : I s) (hgk : GK K pre none) :
    Concl K I c m epoch (fuel + 1) s pre none set bs := by
  have hne : bs ≠ [] := by simp [hbs]
  have hlcp := setLcp_spec c.emptyLabel hc hb hne (hb.pos hpre1)
  have hpl := lcpAll_prefix bs hne
  have hprep : pre <+: lcpAll bs := hb.le_lcpAll hne
  -- every element is strictly longer than the common prefix: there is another one, not an extension of it
  have hstrict : ∀ b ∈ bs, (lcpAll bs).length < b.1.length := by
    intro b hb'
    obtain ⟨a', ha', hna⟩ := exists_other _ hpf (by simp [hbs, newLeaves]) ⟨b.1, b.2, epoch⟩
      (List.mem_map_of_mem hb')
    obtain ⟨b', hb'', rfl⟩ := List.mem_map.1 ha'
    exact length_lt_of_not_prefix (hpl b' hb'') (hpl b hb') hna
  have hboth : ∀ d, bs.filter (goes (lcpAll bs) d) ≠ [] := by
    intro d
    apply side_nonempty (fun b hb' => ⟨hpl b hb', hstrict b hb'⟩) d
    intro hall
    have := ((prefix_lcpAll_iff bs hne _).2 hall).length_le
    simp at this
    omega
  have h1 : phase1 c epoch s (olbl none) set
      = .ok (s, TreeNode.newInterior c (ofBits (lcpAll bs)) epoch, true, 1) := by
    unfold phase1
    rw [hb.elems, hlcp]
    subst hbs
    rfl
  have hst : St c m epoch (lcpAll bs) .interior s (TreeNode.newInterior c (ofBits (lcpAll bs)) epoch)
      (fun _ => none) :=
    ⟨rfl, rfl, fun d => by cases d <;> rfl, .inl rfl, .inr ⟨rfl, rfl, rfl⟩, fun _ _ => nofun⟩
  obtain ⟨s', n, num', t', hrun, k1, k2, k3, k4, k5, hti', hchg, _⟩ :=
    interior_spec c m epoch fuel hep hI hspec hst (by have := hprep.length_le; omega) true 1 (hb.at hpl) hne hstrict
      (by simpa [oleaves] using hpf) hti (fun d => gk_none_mono hgk (hprep.trans (List.prefix_append _ _)))
      (fun d _ => hboth d)
  exact ⟨s', n, true, num', t', by rw [insertRec_succ, h1]; exact hrun, k1, k2, k3, k4 ▸ hprep,
    by simpa [oleaves] using k5, hti', fun _ => gk_none_fresh hgk (k4 ▸ hprep), hchg, nofun⟩

/-- existing sub-tree whose label is not a prefix of all elements: decompress (case 1a) -/
theorem case_decompress (s : NodeStore) (pre : BitStr) (t : CTree) {set : ElementSet Dig} {bs : List (BitStr × Dig)}
    (hfuel : 257 ≤ fuel + 1 + pre.length) (hpre1 : 1 ≤ pre.length)
    (hb : Batch set bs pre) (hne : bs ≠ []) (hsub : Sub c m epoch s pre (some t))
    (hpf : (t.leaves ++ newLeaves bs epoch).Pairwise Incomp)
    (hlt : (BitStr.commonPrefix t.lbl (lcpAll bs)).length < t.lbl.length)
    (hti : I s) (hgk : GK K pre (some t)) :
    Concl K I c m epoch (fuel + 1) s pre (some t) set bs := by
  obtain ⟨hrep, hwf, hpt, hlok⟩ := hsub t rfl
  have hlen : ∀ lf ∈ t.leaves, lf.lbl.length ≤ 256 := fun lf h => (hlok lf h).2.2
  have hq : t.lbl.length ≤ 256 := Canon.Tree.lbl_length_le hwf hlen
  have hmaxle : maxEp t ≤ epoch := maxEp_le t epoch (fun lf h => (hlok lf h).2.1)
  obtain ⟨r, hg, hn, hgn⟩ := rep_getNode hrep hmaxle
  have h1 : phase1 c epoch s (olbl (some t)) set = _ :=
    phase1_some c hc epoch s hgn hq hb hne (hb.pos hpre1)
  have hpl := lcpAll_prefix bs hne
  have hprel : pre <+: lcpAll bs := hb.le_lcpAll hne
  generalize hpdef : BitStr.commonPrefix t.lbl (lcpAll bs) = p at hlt h1
  have hp_t : p <+: t.lbl := hpdef ▸ BitStr.commonPrefix_prefix_left _ _
  have hp_l : p <+: lcpAll bs := hpdef ▸ BitStr.commonPrefix_prefix_right _ _
  have hprep : pre <+: p := hpdef ▸ BitStr.prefix_commonPrefix _ _ _ hpt hprel
  obtain ⟨d0, hd0⟩ : ∃ d0, (p ++ [d0]) <+: t.lbl :=
    ⟨t.lbl[p.length]'hlt, Canon.snoc_prefix_of_getElem? hp_t (List.getElem?_eq_getElem hlt)⟩
  obtain ⟨lf0, hlf0⟩ := Canon.Tree.exists_mem_leaves t
  have hstrict : ∀ b ∈ bs, p.length < b.1.length := fun b hb' =>
    length_lt_of_not_prefix (hp_t.trans (Canon.Tree.lbl_prefix hwf lf0 hlf0)) (hp_l.trans (hpl b hb'))
      (incomp_old_new hpf lf0 hlf0 b hb').2
  -- `p` is the LONGEST common prefix, so some element goes the other way
  have hother : bs.filter (goes p (!d0)) ≠ [] := by
    apply side_nonempty (fun b hb' => ⟨hp_l.trans (hpl b hb'), hstrict b hb'⟩)
    rw [Bool.not_not]
    intro hall
    have := (hpdef ▸ BitStr.prefix_commonPrefix _ _ _ hd0 ((prefix_lcpAll_iff bs hne _).2 hall)).length_le
    simp at this
    omega
  -- Phase 1: the new node above, the old one rewritten with its new parent
  obtain ⟨cur2, hsc, c1, c2, c3, c4, c5⟩ :=
    setChild_spec (TreeNode.newInterior c (ofBits p) epoch) r.latest p t.lbl d0 rfl (nodeIs_label hn) hq hd0
  obtain ⟨s1, hw⟩ := writeNode_total s { r.latest with parent := ofBits p } false
  rw [if_pos hlt, hsc] at h1
  simp only at h1
  rw [hw] at h1
  have hti1 := hI.reparent (ofBits p) hti (by rw [nodeIs_label hn]; exact hg)
    (by rw [nodeIs_lastEpoch hn]; exact hmaxle) hw
  have hn' := nodeIs_parent hn (ofBits p)
  have hrep1 := rep_write t hwf hlen hw hn' ((rep_iff c m s t).1 hrep).2
  have hst : St c m epoch p .interior s1 cur2 (upd (fun _ => none) d0 (some t)) := by
    refine ⟨c1, c2, fun b => ?_, .inl ?_, .inl ?_, fun b t' hbt => ?_⟩
    · rw [c3 b]
      unfold upd
      split
      · rw [nodeIs_label hn]; rfl
      · cases b <;> rfl
    · rw [c4, nodeIs_lastEpoch hn]
      exact Nat.max_eq_left hmaxle
    · rw [c5, nodeIs_minDesc hn]
      exact min_step epoch d0 (fun _ => none) t epoch (.inr ⟨rfl, rfl, rfl⟩)
        (Nat.le_trans (minEp_le t lf0 hlf0) (hlok lf0 hlf0).2.1) (fun _ _ => nofun) (fun _ => nofun)
    · unfold upd at hbt
      split at hbt
      · cases hbt
        subst b
        exact ⟨hrep1, hwf, hd0, hlok⟩
      · cases hbt
  have holv : oleaves (upd (fun _ => none) d0 (some t) false) ++ oleaves (upd (fun _ => none) d0 (some t) true)
      = t.leaves := by
    cases d0 <;> simp [upd, oleaves]
  obtain ⟨hfreshp, hgk'⟩ := gk_above hgk hwf hprep hd0
  obtain ⟨s', n, num', t', hrun, k1, k2, k3, k4, k5, hti', hchg, hold⟩ :=
    interior_spec c m epoch fuel hep hI hspec hst (by have := hprep.length_le; omega) true 1
      (hb.at (fun b hb' => hp_l.trans (hpl b hb'))) hne hstrict (by rw [holv]; exact hpf) hti1 hgk'
      (fun d hd => by
        have hd' : d = !d0 := by
          cases d <;> cases d0 <;> first | rfl | exact absurd hd (by simp [upd])
        exact hd' ▸ hother)
  rw [holv] at k5
  have holdt : ∀ q ∈ lbls t, q ∈ lbls t' := fun q h => hold d0 q (by rw [upd_same]; exact h)
  exact ⟨s', n, true, num', t', by rw [insertRec_succ, h1]; exact hrun, k1, k2, k3, k4 ▸ hprep, k5, hti',
    fun _ => k4 ▸ hfreshp,
    (chg_writeNode hw t.lbl (nodeIs_label hn') (holdt _ (lbl_mem_lbls t))).trans hchg, holdt⟩

/-- existing sub-tree whose label is a prefix of all elements: the node is kept and the batch descends (case 1b) -/
theorem case_descend (s : NodeStore) (pre : BitStr) (t : CTree) {set : ElementSet Dig} {bs : List (BitStr × Dig)}
    (hfuel : 257 ≤ fuel + 1 + pre.length) (hpre1 : 1 ≤ pre.length)
    (hb : Batch set bs pre) (hne : bs ≠ []) (hsub : Sub c m epoch s pre (some t))
    (hpf : (t.leaves ++ newLeaves bs epoch).Pairwise Incomp)
    (hge : ¬ (BitStr.commonPrefix t.lbl (lcpAll bs)).length < t.lbl.length)
    (hti : I s) (hgk : GK K pre (some t)) :
    Concl K I c m epoch (fuel + 1) s pre (some t) set bs := by
  obtain ⟨hrep, hwf, hpt, hlok⟩ := hsub t rfl
  have hlen : ∀ lf ∈ t.leaves, lf.lbl.length ≤ 256 := fun lf h => (hlok lf h).2.2
  have hmaxle : maxEp t ≤ epoch := maxEp_le t epoch (fun lf h => (hlok lf h).2.1)
  obtain ⟨r, hg, hn, hgn⟩ := rep_getNode hrep hmaxle
  have h1 : phase1 c epoch s (olbl (some t)) set = _ :=
    phase1_some c hc epoch s hgn (Canon.Tree.lbl_length_le hwf hlen) hb hne
      (hb.pos hpre1)
  rw [if_neg hge] at h1
  have hall : ∀ b ∈ bs, t.lbl <+: b.1 := fun b hb' =>
    (Canon.commonPrefix_eq_left_of_length_ge hge ▸ BitStr.commonPrefix_prefix_right t.lbl (lcpAll bs)).trans
      (lcpAll_prefix bs hne b hb')
  obtain ⟨b0, hb0⟩ := List.exists_mem_of_ne_nil bs hne
  obtain ⟨lf0, hlf0⟩ := Canon.Tree.exists_mem_leaves t
  have hstrict : ∀ b ∈ bs, t.lbl.length < b.1.length := fun b hb' =>
    length_lt_of_not_prefix (Canon.Tree.lbl_prefix hwf lf0 hlf0) (hall b hb') (incomp_old_new hpf lf0 hlf0 b hb').2
  -- `t.lbl` is a prefix of every element, so `t` is no leaf (prefix-freeness): Phase 1 keeps its node record, and
  -- its two children are the state Phase 2 starts from
  cases t with
  | leaf q v e =>
    exact absurd (hall b0 hb0) (incomp_old_new hpf ⟨q, v, e⟩ (by simp [CTree.leaves]) b0 hb0).1
  | node q l r' =>
    obtain ⟨n1, n2, n3, n4, n5, n6, n7⟩ := hn
    obtain ⟨pl, pr, wl, wr⟩ := hwf
    have hst : St c m epoch q .interior s r.latest (fun b => if b then some r' else some l) :=
      ⟨n1, n2, fun d => by cases d; exact n3; exact n4, .inr n6, .inl n7, fun d t' hbt => by
        cases d <;> cases hbt
        · exact ⟨hrep.2.1, wl, pl, fun lf h => hlok lf (List.mem_append_left _ h)⟩
        · exact ⟨hrep.2.2, wr, pr, fun lf h => hlok lf (List.mem_append_right _ h)⟩⟩
    obtain ⟨s', n, num', t', hrun, k1, k2, k3, k4, k5, hti', hchg, hold⟩ :=
      interior_spec c m epoch fuel hep hI hspec hst (by have := hpt.length_le; simp only [CTree.lbl] at this; omega)
        false 0 (hb.at hall) hne hstrict hpf hti
        (fun d => by have := gk_children hgk ⟨pl, pr, wl, wr⟩ hpt d; cases d <;> exact this) (fun d hd => by cases d <;> cases hd)
    refine ⟨s', n, false, num', t', by rw [insertRec_succ, h1]; exact hrun, k1, k2, k3, k4 ▸ hpt, k5, hti',
      nofun, hchg, fun x hx => ?_⟩
    rcases List.mem_cons.1 hx with rfl | hx
    · exact k4 ▸ lbl_mem_lbls t'
    · rcases List.mem_append.1 hx with hx | hx
      · exact hold false x hx
      · exact hold true x hx

end

theorem spec_all {K : BitStr → Prop} {I : NodeStore → Prop}
    (c : Cfg) (m : InsertMode) (epoch : Nat) (hc : c.emptyLabel.len = 0) (hep : 1 ≤ epoch)
    (hI : WriteInv epoch K I) : ∀ fuel, Spec K I c m epoch fuel
  | 0 => by
    intro s pre ot set bs hfuel _ hb hne _ _ _ _
    obtain ⟨b, hb'⟩ := List.exists_mem_of_ne_nil bs hne
    have := (hb.under b hb').1.length_le
    have := (hb.under b hb').2
    omega
  | fuel + 1 => by
    have ih := spec_all c m epoch hc hep hI fuel
    intro s pre ot set bs hfuel hpre1 hb hne hsub hpf hti hgk
    cases ot with
    | none =>
      cases bs with
      | nil => exact absurd rfl hne
      | cons b rest =>
        cases rest with
        | nil => exact case_leaf c m epoch fuel s pre hb hti hgk
        | cons b2 rest =>
          exact case_interior c m epoch fuel hc hep hI ih s pre (by omega) hpre1 hb rfl
            (by simpa [oleaves] using hpf) hti hgk
    | some t =>
      by_cases hlt : (BitStr.commonPrefix t.lbl (lcpAll bs)).length < t.lbl.length
      · exact case_decompress c m epoch fuel hc hep hI ih s pre t (by omega) hpre1 hb hne hsub hpf hlt hti hgk
      · exact case_descend c m epoch fuel hc hep hI ih s pre t (by omega) hpre1 hb hne hsub hpf hlt hti hgk

end Akd.Ins
