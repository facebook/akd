/-
The three `AzksElementSet` operations: on a sorted list of labels of one length the binary-search
implementations compute what the linear ones do.
-/
import AkdModel.Lemmas.LabelSearch
namespace Akd

namespace NodeLabel

theorem cmp_same_len (a b : NodeLabel) (h : a.len = b.len) :
    cmp a b = BitStr.lex a.bits256 b.bits256 := by
  rw [cmp_eq, h]; simp

theorem prefix_bits_iff_take (z : List Bool) (n : NodeLabel) :
    z <+: n.bits ↔ z.length ≤ n.len ∧ n.bits256.take z.length = z := by
  rw [bits, List.prefix_take_iff, List.prefix_iff_eq_take, and_comm, eq_comm]

/-- What all three operations use of the order: among labels of one length, sorted labels have
sorted prefixes. -/
theorem toNat_take_mono (x y : NodeLabel) (m : Nat) (hxy : x.len = y.len) (h : cmp x y ≠ .gt) :
    BitStr.toNat (x.bits256.take m) ≤ BitStr.toNat (y.bits256.take m) := by
  rw [cmp_same_len x y hxy] at h
  have := BitStr.lex_take_ne_gt _ _ m (by simp [bits256_length]) h
  rwa [BitStr.lex_eq_compare _ _ (by simp [bits256_length]), Nat.compare_ne_gt] at this

theorem isPrefixOf_iff_take (p c : NodeLabel) (hpc : p.len ≤ c.len) (hc : c.len ≤ 256) :
    p.isPrefixOf c = true ↔ c.bits256.take p.len = p.bits := by
  have hpl : p.bits.length = p.len := by rw [bits_length]; omega
  rw [isPrefixOf_iff' p c hc, ← bits_prefix_iff p c (by omega) hc, prefix_bits_iff_take, hpl]
  simp [hpc]

/-- the comparator of `contains_prefix` only looks at the first `p.len` bits -/
theorem containsCmp_eq (p c : NodeLabel) (hpc : p.len ≤ c.len) (hc : c.len ≤ 256) :
    (if p.len == 0 || p.isPrefixOf c then Ordering.eq
      else cmpBytes c.val.toList p.val.toList) = BitStr.lex (c.bits256.take p.len) p.bits := by
  have hpre := isPrefixOf_iff_take p c hpc hc
  by_cases h : p.isPrefixOf c = true
  · rw [h, Bool.or_true, if_pos rfl, hpre.mp h, (BitStr.lex_eq_iff _ _ rfl).mpr rfl]
  · -- not a prefix: the first `p.len` bits differ, and they decide the comparison of all 256
    have h0 : p.len ≠ 0 := fun h0 => h (hpre.mpr (by simp [bits, h0]))
    have hlen : (c.bits256.take p.len).length = p.bits.length := by
      simp [bits, bits256_length]
    have hne : BitStr.lex (c.bits256.take p.len) p.bits ≠ .eq :=
      fun he => h (hpre.mpr ((BitStr.lex_eq_iff _ _ hlen).mp he))
    have := BitStr.lex_append (c.bits256.take p.len) p.bits (c.bits256.drop p.len)
      (p.bits256.drop p.len) hlen
    rw [List.take_append_drop, bits, List.take_append_drop, ← bits, ← cmpBytes_val] at this
    rw [if_neg (by simp [h0, h]), this]
    cases hh : BitStr.lex (c.bits256.take p.len) p.bits
    · rfl
    · exact absurd hh hne
    · rfl

theorem rk_compare_mono (a b c : Nat) (h : a ≤ b) : rk (compare a c) ≤ rk (compare b c) := by
  simp only [Nat.compare_eq_ite_lt]
  repeat' split
  all_goals simp only [rk]
  all_goals omega

end NodeLabel

namespace NodeLabel

/-- the predicate handed to `partition_point` -/
def partPred (p : NodeLabel) (c : NodeLabel) : Bool :=
  match p.prefixOrdering c with
  | .withZero | .invalid => true
  | .withOne => false

theorem prefixOrdering_of_prefix (p c : NodeLabel) (hc : c.len ≤ 256) (hlt : p.len < c.len)
    (hp : p.isPrefixOf c = true) :
    p.prefixOrdering c = if bitB c.val p.len then .withOne else .withZero := by
  rw [prefixOrdering_iff p c hc]
  exact ⟨hlt, ((isPrefixOf_iff' p c hc).mp hp).2, rfl⟩

theorem prefixOrdering_invalid (p c : NodeLabel) (h : c.len ≤ p.len) :
    p.prefixOrdering c = .invalid := by
  simp [prefixOrdering, show p.len ≥ c.len from h]

theorem next_bit_mono (p x y : NodeLabel) (hy : y.len ≤ 256) (hxy : x.len = y.len) (hlt : p.len < x.len)
    (hpx : p.isPrefixOf x = true) (hpy : p.isPrefixOf y = true) (h : cmp x y ≠ .gt)
    (hby : bitB y.val p.len = false) : bitB x.val p.len = false := by
  -- compare the first `p.len + 1` bits: `p.bits` followed by the next bit
  have hm := toNat_take_mono x y (p.len + 1) hxy h
  have htake : ∀ c : NodeLabel, c.len ≤ 256 → p.len < c.len → p.isPrefixOf c = true →
      c.bits256.take (p.len + 1) = p.bits ++ [bitB c.val p.len] := fun c hc hpc hp => by
    rw [List.take_add_one, (isPrefixOf_iff_take p c (by omega) hc).1 hp,
      List.getElem?_eq_getElem (by rw [bits256_length]; omega), bits256_getElem]
    rfl
  rw [htake x (by omega) hlt hpx, htake y hy (by omega) hpy, hby] at hm
  cases hbx : bitB x.val p.len
  · rfl
  · rw [hbx, ← Nat.not_lt] at hm
    refine absurd ?_ hm
    rw [← Nat.compare_eq_lt, ← BitStr.lex_eq_compare _ _ (by simp),
      BitStr.lex_append _ _ _ _ rfl, (BitStr.lex_eq_iff _ _ rfl).mpr rfl]
    rfl

end NodeLabel

theorem dropWhile_eq_self_of {α} (r : α → Bool) (l : List α) (h : ∀ x ∈ l, r x = false) :
    l.dropWhile r = l := by
  cases l with
  | nil => rfl
  | cons a l => simp [List.dropWhile, h a (by simp)]

theorem dropWhile_eq_nil_of {α} (r : α → Bool) (l : List α) (h : ∀ x ∈ l, r x = true) :
    l.dropWhile r = [] := by
  induction l with
  | nil => rfl
  | cons a l ih =>
    simp only [List.dropWhile, h a (by simp)]
    exact ih (fun x hx => h x (by simp [hx]))

theorem popInvalid_eq_filter {α} (p : NodeLabel) (l : List (NodeLabel × α))
    (h : (∀ x ∈ l, p.prefixOrdering x.1 ≠ .invalid) ∨ (∀ x ∈ l, p.prefixOrdering x.1 = .invalid)) :
    ElementSet.popInvalid p l = l.filter (fun x => p.prefixOrdering x.1 != .invalid) := by
  unfold ElementSet.popInvalid
  rcases h with h | h
  · rw [List.filter_eq_self.2 fun x hx => by simpa using h x hx, dropWhile_eq_self_of,
      List.reverse_reverse]
    exact fun x hx => by simpa using h x (List.mem_reverse.1 hx)
  · rw [List.filter_eq_nil_iff.2 fun x hx => by simp [h x hx], dropWhile_eq_nil_of, List.reverse_nil]
    exact fun x hx => by simp [h x (List.mem_reverse.1 hx)]

namespace NodeLabel

theorem prefix_sandwich (z : List Bool) (x n l : NodeLabel) (hL : x.len ≤ 256)
    (hxn : x.len = n.len) (hnl : n.len = l.len)
    (h1 : cmp x n ≠ .gt) (h2 : cmp n l ≠ .gt) (hzx : z <+: x.bits) (hzl : z <+: l.bits) :
    z <+: n.bits := by
  rw [prefix_bits_iff_take] at hzx hzl ⊢
  have h1 := toNat_take_mono x n z.length hxn h1
  have h2 := toNat_take_mono n l z.length hnl h2
  rw [hzx.2] at h1
  rw [hzl.2] at h2
  have hlen : (n.bits256.take z.length).length = z.length := by
    simp [bits256_length]; omega
  refine ⟨by omega, (BitStr.lex_eq_iff _ _ hlen).mp ?_⟩
  rw [BitStr.lex_eq_compare _ _ hlen, Nat.compare_eq_eq]
  omega

end NodeLabel

theorem prefix_foldl_commonPrefix_iff {β} (g : β → BitStr) (rest : List β) (b0 z : BitStr) :
    z <+: rest.foldl (fun b n => BitStr.commonPrefix (g n) b) b0 ↔
      z <+: b0 ∧ ∀ n ∈ rest, z <+: g n := by
  induction rest generalizing b0 with
  | nil => simp
  | cons n rest ih =>
    rw [List.foldl_cons, ih, BitStr.prefix_commonPrefix_iff]
    simp only [List.mem_cons, forall_eq_or_imp]
    exact ⟨fun ⟨⟨h1, h2⟩, h3⟩ => ⟨h2, h1, h3⟩, fun ⟨h2, h1, h3⟩ => ⟨⟨h1, h2⟩, h3⟩⟩

theorem foldl_lcp_bits {α} (e : NodeLabel) (L : Nat) (hL : L ≤ 256) (he0 : e.len = 0 ∨ L < e.len)
    (rest : List (NodeLabel × α)) (hrest : ∀ x ∈ rest, x.1.len = L ∧ x.1 ≠ e)
    (acc : NodeLabel) (hacc : acc.len ≤ L) :
    (rest.foldl (fun acc n => NodeLabel.lcp e n.1 acc) acc).bits
      = rest.foldl (fun b n => BitStr.commonPrefix n.1.bits b) acc.bits := by
  induction rest generalizing acc with
  | nil => rfl
  | cons n rest ih =>
    rw [List.foldl_cons, List.foldl_cons]
    obtain ⟨hnl, hne⟩ := hrest n (by simp)
    have hrest' : ∀ x ∈ rest, x.1.len = L ∧ x.1 ≠ e := fun x hx => hrest x (by simp [hx])
    by_cases hae : acc = e
    · -- the code returns `e`; harmless only because `e` then stands for the empty string
      subst hae
      have h1 : NodeLabel.lcp acc n.1 acc = acc := by simp [NodeLabel.lcp]
      have h2 : acc.bits = [] := by simp [NodeLabel.bits, show acc.len = 0 by omega]
      have h3 : BitStr.commonPrefix n.1.bits acc.bits = acc.bits := by
        rw [h2]; cases n.1.bits <;> rfl
      rw [h1, h3]
      exact ih hrest' acc hacc
    · obtain ⟨hbits, hlen, _⟩ := NodeLabel.lcp_spec' e n.1 acc hne hae (by omega) (by omega)
      have := (BitStr.commonPrefix_prefix_right n.1.bits acc.bits).length_le
      rw [NodeLabel.bits_length] at this
      rw [← hbits]
      exact ih hrest' _ (by omega)

end Akd
