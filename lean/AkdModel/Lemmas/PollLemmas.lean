/-
Invariant of the polling model (`AkdModel/Poll.lean`) for instances all of whose requests are guarded.
-/
import AkdModel.Poll
namespace Akd.Poll

/-- what holds of a request slot: it is guarded, and it is idle or serves from an epoch that is at least the
newest epoch signalled at its start and at least the epoch the instance started from (a guarded request never
finds the epoch record vacant) -/
def RInv (e : Nat) (r : Reader) : Prop :=
  r.guarded = true ∧ (r.pc = .idle ∨ ∃ g x, r.pc = .holding g x ∧ g ≤ x ∧ e ≤ x)

/-- what holds at each program point of the poller -/
def PInv (e : Nat) (s : Sys) : Prop :=
  match s.p with
  | .sleeping => s.wlock = false
  | .detected l => s.wlock = false ∧ l ≤ s.db
  | .locked l => s.wlock = true ∧ l ≤ s.db
  | .flushed l => s.wlock = true ∧ l ≤ s.db ∧ s.cache = none
  | .refetchMiss l => s.wlock = true ∧ l ≤ s.db ∧ s.cache = none
  | .refetched l v => s.wlock = true ∧ l ≤ v ∧ v ≤ s.db ∧ e ≤ v ∧ s.sig ≤ v ∧ s.cache = none

/-- the inductive invariant; the first five fields are what the property theorems use -/
structure Inv (e : Nat) (s : Sys) : Prop where
  sig_le_db : s.sig ≤ s.db
  cache_fresh : s.wlock = false → ∀ v, s.cache = some v → s.sig ≤ v ∧ v ≤ s.db
  excl : s.wlock = true → ∀ r ∈ s.rs, r.pc = .idle
  ans : ∀ a ∈ s.answers, a.1 ≤ a.2
  ans_ge_start : ∀ a ∈ s.answers, e ≤ a.2
  readers : ∀ r ∈ s.rs, RInv e r
  order : s.sig ≤ s.last ∧ s.last ≤ s.db ∧ e ≤ s.last
  cache_some : s.wlock = false → ∃ v, s.cache = some v ∧ s.last ≤ v ∧ v ≤ s.db
  pinv : PInv e s

theorem inv_init (e : Nat) (guards : List Bool) (hg : ∀ g ∈ guards, g = true) : Inv e (init e guards) where
  sig_le_db := Nat.zero_le _
  cache_fresh := fun _ v hv => by cases hv; exact ⟨Nat.zero_le _, Nat.le_refl _⟩
  excl := nofun
  ans := nofun
  ans_ge_start := nofun
  readers := by
    intro r hr
    obtain ⟨g, hgm, rfl⟩ := List.mem_map.1 hr
    exact ⟨hg g hgm, .inl rfl⟩
  order := ⟨Nat.zero_le _, Nat.le_refl _, Nat.le_refl _⟩
  cache_some := fun _ => ⟨e, rfl, Nat.le_refl _, Nat.le_refl _⟩
  pinv := rfl

/-- `PInv` bounds `db` from below only -/
theorem pinv_publish {e : Nat} {s : Sys} (h : PInv e s) : PInv e { s with db := s.db + 1 } := by
  unfold PInv at h ⊢
  dsimp only
  split at h <;> grind

/-! Each step touches few components of the state; of the invariant only the fields that mention them
are proved anew, the others are carried over (their statements agree up to unfolding the update). -/

theorem inv_publish {e : Nat} {s : Sys} (h : Inv e s) : Inv e { s with db := s.db + 1 } :=
  { h with
    sig_le_db := Nat.le_succ_of_le h.sig_le_db
    cache_fresh := fun hw v hv => ⟨(h.cache_fresh hw v hv).1, Nat.le_succ_of_le (h.cache_fresh hw v hv).2⟩
    order := ⟨h.order.1, Nat.le_succ_of_le h.order.2.1, h.order.2.2⟩
    cache_some := fun hw => let ⟨v, hv, h1, h2⟩ := h.cache_some hw; ⟨v, hv, h1, Nat.le_succ_of_le h2⟩
    pinv := pinv_publish h.pinv }

theorem idle_of_not_readLocked {e : Nat} {s : Sys} (h : Inv e s) (hl : readLocked s = false) :
    ∀ r ∈ s.rs, r.pc = .idle := by
  intro r hr
  have := List.any_eq_false.1 hl r hr
  simpa [(h.readers r hr).1] using this

theorem inv_poller {e : Nat} {s s' : Sys} (h : Inv e s) (hs : step s .poller = some s') : Inv e s' := by
  have hp := h.pinv
  unfold PInv at hp
  simp only [step] at hs
  split at hs <;> rename_i hpc <;> rw [hpc] at hp
  · -- sleeping
    split at hs <;> cases hs
    · exact { h with pinv := And.intro hp (Nat.le_refl _) }
    · exact h
  · -- detected: the lock is taken only when every request slot is idle
    split at hs <;> cases hs
    rename_i hrl
    exact { h with
      cache_fresh := nofun
      excl := fun _ => idle_of_not_readLocked (s := s) h (by simpa using hrl)
      cache_some := nofun
      pinv := And.intro rfl hp.2 }
  · -- locked
    cases hs
    exact { h with
      cache_fresh := fun hw => by cases hp.1.symm.trans hw
      cache_some := fun hw => by cases hp.1.symm.trans hw
      pinv := ⟨hp.1, hp.2, rfl⟩ }
  · -- flushed: the entry is still vacant
    split at hs
    · rename_i v hc
      cases hp.2.2.symm.trans hc
    · cases hs
      exact { h with pinv := hp }
  · -- refetchMiss
    cases hs
    exact { h with
      pinv := ⟨hp.1, hp.2.1, Nat.le_refl _, Nat.le_trans h.order.2.2 h.order.2.1, h.sig_le_db, hp.2.2⟩ }
  · -- refetched: the value read becomes the cached epoch record, `last`, and (at least) what is signalled
    obtain ⟨hw, hlv, hvd, hev, hsv, hc⟩ := hp
    cases hs
    have hm : max s.sig _ ≤ _ := Nat.max_le.2 ⟨hsv, hlv⟩
    exact { h with
      sig_le_db := Nat.le_trans hm hvd
      cache_fresh := fun _ v' hv' => by
        rw [hc] at hv'; cases hv'; exact ⟨hm, hvd⟩
      excl := nofun
      order := ⟨hm, hvd, hev⟩
      cache_some := fun _ => ⟨_, by rw [hc], Nat.le_refl _, hvd⟩
      pinv := rfl }

theorem setR_readers {e : Nat} {s : Sys} {i : Nat} {r : Reader}
    (h : ∀ r ∈ s.rs, RInv e r) (hr : RInv e r) : ∀ r' ∈ (setR s i r).rs, RInv e r' := by
  intro r' hr'
  rcases List.mem_or_eq_of_mem_set hr' with hm | rfl
  · exact h r' hm
  · exact hr

theorem inv_reader {e : Nat} {s s' : Sys} {i : Nat} (h : Inv e s) (hs : step s (.reader i) = some s') :
    Inv e s' := by
  simp only [step] at hs
  split at hs
  · cases hs
  rename_i r hri
  have hmem : r ∈ s.rs := List.mem_of_getElem? hri
  obtain ⟨hg, hpc | ⟨g, x, hpc, hgx, hex⟩⟩ := h.readers r hmem <;> simp only [hpc] at hs
  · -- idle: starts only outside the poller's critical section, and finds the epoch record cached
    simp only [hg, Bool.true_and] at hs
    split at hs
    · cases hs
    rename_i hw
    have hw : s.wlock = false := by simpa using hw
    obtain ⟨v, hv, hlv, hvd⟩ := h.cache_some hw
    rw [hv] at hs
    cases hs
    exact { h with
      excl := fun hw' => by cases hw.symm.trans hw'
      readers := setR_readers h.readers
        ⟨rfl, .inr ⟨s.sig, v, rfl, (h.cache_fresh hw v hv).1, Nat.le_trans h.order.2.2 hlv⟩⟩ }
  · -- holding: answers
    cases hs
    exact { h with
      excl := fun hw' => by have := h.excl hw' r hmem; rw [hpc] at this; cases this
      ans := List.forall_mem_append.2 ⟨h.ans, List.forall_mem_singleton.2 hgx⟩
      ans_ge_start := List.forall_mem_append.2 ⟨h.ans_ge_start, List.forall_mem_singleton.2 hex⟩
      readers := setR_readers (s := { s with answers := s.answers ++ [(g, x)] }) h.readers ⟨hg, .inl rfl⟩ }

theorem inv_step {e : Nat} {s s' : Sys} (a : Act) (h : Inv e s) (hs : step s a = some s') : Inv e s' := by
  cases a with
  | publish => cases hs; exact inv_publish h
  | poller => exact inv_poller h hs
  | reader i => exact inv_reader h hs

theorem inv_run {e : Nat} (sched : List Act) : ∀ (s s' : Sys), Inv e s → run s sched = some s' → Inv e s' := by
  induction sched with
  | nil => intro s s' h hr; cases hr; exact h
  | cons a rest ih =>
    intro s s' h hr
    simp only [run] at hr
    split at hr
    · rename_i s1 hs1
      exact ih s1 s' (inv_step a h hs1) hr
    · cases hr

theorem inv_reachable (e : Nat) (guards : List Bool) (hg : ∀ g ∈ guards, g = true)
    (sched : List Act) (s : Sys) (hrun : run (init e guards) sched = some s) : Inv e s :=
  inv_run sched _ _ (inv_init e guards hg) hrun

end Akd.Poll
