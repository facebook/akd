/-
When `>>=` and `List.mapM` succeed in `Except` (namespace `InExcept`); for `Thm/C02b.lean` (batch lookup =
per-label lookup), `lookup` and `batchLookup` characterised through what both do for one label (`lookupAt`).
-/
import AkdModel.Batch
namespace Akd
namespace InExcept

theorem bind_eq_ok {ε α β : Type} {x : Except ε α} {f : α → Except ε β} {b : β} :
    (x >>= f) = .ok b ↔ ∃ a, x = .ok a ∧ f a = .ok b := by
  cases x <;> simp [bind, Except.bind]

theorem mapM_ok_iff_map {ε α β : Type} (f : α → Except ε β) (us : List α) (rs : List β) :
    us.mapM f = .ok rs ↔ us.map f = rs.map .ok := by
  induction us generalizing rs with
  | nil => simp [pure, Except.pure, eq_comm]
  | cons a as ih =>
    cases rs <;> simp [bind_eq_ok, pure, Except.pure, ih]

theorem mapM_ok_iff {ε α β : Type} (f : α → Except ε β) (us : List α) (rs : List β) :
    us.mapM f = .ok rs ↔
      rs.length = us.length ∧ ∀ i (hi : i < us.length) (hj : i < rs.length), f us[i] = .ok rs[i] := by
  rw [mapM_ok_iff_map, List.ext_getElem_iff]
  simp only [List.length_map, List.getElem_map]
  exact and_congr_left' eq_comm

theorem mapM_ok_of_forall {ε α β : Type} (f : α → Except ε β) (us : List α)
    (h : ∀ u ∈ us, ∃ r, f u = .ok r) : ∃ rs, us.mapM f = .ok rs := by
  induction us with
  | nil => exact ⟨[], rfl⟩
  | cons a as ih =>
    obtain ⟨r, hr⟩ := h a (by simp)
    obtain ⟨rs, hrs⟩ := ih (fun u hu => h u (by simp [hu]))
    exact ⟨r :: rs, by simp [bind_eq_ok, hr, hrs, pure, Except.pure]⟩

/-- for success only: when they fail, the two sides may report different errors -/
theorem mapM_mapM_ok_iff {ε α β γ : Type} (f : α → Except ε β) (g : β → Except ε γ) (us : List α) (ps : List γ) :
    (∃ xs, us.mapM f = .ok xs ∧ xs.mapM g = .ok ps) ↔ us.mapM (fun u => f u >>= g) = .ok ps := by
  induction us generalizing ps with
  | nil => simp [pure, Except.pure]
  | cons a as ih =>
    simp only [List.mapM_cons, bind_eq_ok, ← ih, pure, Except.pure, Except.ok.injEq]
    constructor
    · rintro ⟨_, ⟨b, hb, bs, hbs, rfl⟩, h⟩
      simp only [List.mapM_cons, bind_eq_ok, pure, Except.pure, Except.ok.injEq] at h
      obtain ⟨c, hc, cs, hcs, rfl⟩ := h
      exact ⟨c, ⟨b, hb, hc⟩, cs, ⟨bs, hbs, hcs⟩, rfl⟩
    · rintro ⟨c, ⟨b, hb, hc⟩, cs, ⟨bs, hbs, hcs⟩, rfl⟩
      refine ⟨b :: bs, ⟨b, hb, bs, hbs, rfl⟩, ?_⟩
      simp [bind_eq_ok, hc, hcs, pure, Except.pure]

theorem mapM_map_ok_of_forall {ε α β : Type} (f : α → Except ε β) (g : α → β) (l : List α) (h : ∀ x ∈ l, f x = .ok (g x)) :
    l.mapM f = .ok (l.map g) :=
  (mapM_ok_iff_map f l (l.map g)).2 (by rw [List.map_map]; exact List.map_congr_left h)

end InExcept

namespace Dir
open InExcept

/-- what `lookup` and `batchLookup` do for one label, given the directory's `azks` -/
def lookupAt (c : Cfg) (d : Dir) (azks : Azks) (u : Bytes) : Except DErr LookupProof :=
  d.lookupInfo azks.latestEpoch u >>= d.lookupWithInfo c azks u

theorem lookup_ok_iff (c : Cfg) (d : Dir) (u : Bytes) (π : LookupProof) (e : Nat) (h : Dig) :
    d.lookup c u = .ok (π, e, h) ↔
      ∃ azks, d.azks = some azks ∧ e = azks.latestEpoch ∧ liftT (d.nodes.rootHash c azks) = .ok h ∧
        d.lookupAt c azks u = .ok π := by
  unfold Dir.lookup lookupAt Dir.lookupInfo Dir.lookupWithInfo
  cases d.azks with
  | none => exact ⟨nofun, fun ⟨_, h, _⟩ => nomatch h⟩
  | some azks =>
    simp only [Option.some.injEq, exists_eq_left']
    cases d.stateLeq u azks.latestEpoch with
    | none => exact ⟨nofun, fun ⟨_, _, h⟩ => nomatch h⟩
    | some st =>
      simp only [bind_eq_ok, pure, Except.pure, Except.ok.injEq, Prod.mk.injEq]
      -- both sides list the same successful calls; `lookup` computes the root hash between the labels and the proofs
      constructor
      · rintro ⟨le, hle, lm, hlm, ln, hln, h', hh, pe, hpe, pm, hpm, pn, hpn, rfl, rfl, rfl⟩
        exact ⟨rfl, hh, _, ⟨le, hle, lm, hlm, ln, hln, rfl⟩, pe, hpe, pm, hpm, pn, hpn, rfl⟩
      · rintro ⟨rfl, hh, _, ⟨le, hle, lm, hlm, ln, hln, rfl⟩, pe, hpe, pm, hpm, pn, hpn, rfl⟩
        exact ⟨le, hle, lm, hlm, ln, hln, h, hh, pe, hpe, pm, hpm, pn, hpn, rfl, rfl, rfl⟩

theorem lookupAt_of_lookup {c : Cfg} {d : Dir} {azks : Azks} {u : Bytes} {π : LookupProof} {e : Nat} {h : Dig}
    (hz : d.azks = some azks) (hl : d.lookup c u = .ok (π, e, h)) : d.lookupAt c azks u = .ok π := by
  obtain ⟨azks', hz', -, -, hp⟩ := (lookup_ok_iff c d u π e h).1 hl
  cases hz.symm.trans hz'
  exact hp

/-- the two passes of `batchLookup` over one label -/
theorem lookupAt_eq (c : Cfg) (d : Dir) (azks : Azks) :
    d.lookupAt c azks = fun u =>
      (do let i ← d.lookupInfo azks.latestEpoch u; pure (u, i)) >>= fun (u, i) => d.lookupWithInfo c azks u i := by
  funext u
  simp [lookupAt]

theorem batchLookup_ok_iff (c : Cfg) (d : Dir) (us : List Bytes) (ps : List LookupProof) (e : Nat) (h : Dig) :
    d.batchLookup c us = .ok (ps, e, h) ↔
      ∃ azks, d.azks = some azks ∧ e = azks.latestEpoch ∧ liftT (d.nodes.rootHash c azks) = .ok h ∧
        us.mapM (d.lookupAt c azks) = .ok ps := by
  unfold Dir.batchLookup
  cases d.azks with
  | none => simp [throw, throwThe, MonadExceptOf.throw]
  | some azks =>
    simp only [Option.some.injEq, exists_eq_left']
    rw [lookupAt_eq, ← mapM_mapM_ok_iff]
    simp only [bind_eq_ok, pure, Except.pure, Except.ok.injEq, Prod.mk.injEq]
    constructor
    · rintro ⟨infos, hi, _, hh, _, hp, rfl, rfl, rfl⟩
      exact ⟨rfl, hh, infos, hi, hp⟩
    · rintro ⟨rfl, hh, infos, hi, hp⟩
      exact ⟨infos, hi, h, hh, ps, hp, rfl, rfl, rfl⟩

theorem batchLookup_total (c : Cfg) (d : Dir) (us : List Bytes) (hne : us ≠ []) (e : Nat) (h : Dig)
    (hall : ∀ u ∈ us, ∃ π, d.lookup c u = .ok (π, e, h)) : ∃ ps, d.batchLookup c us = .ok (ps, e, h) := by
  obtain ⟨u0, hu0⟩ := List.exists_mem_of_ne_nil us hne
  obtain ⟨π0, h0⟩ := hall u0 hu0
  obtain ⟨azks, hz, he, hh, -⟩ := (lookup_ok_iff c d u0 π0 e h).1 h0
  obtain ⟨ps, hps⟩ := mapM_ok_of_forall (d.lookupAt c azks) us fun u hu =>
    let ⟨π, hπ⟩ := hall u hu
    ⟨π, lookupAt_of_lookup hz hπ⟩
  exact ⟨ps, (batchLookup_ok_iff c d us ps e h).2 ⟨azks, hz, he, hh, hps⟩⟩

end Dir
end Akd
