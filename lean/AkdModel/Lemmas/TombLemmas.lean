/-
`Dir.tombstone` rewrites value states only (C20): what that does to `stateLeq`, and that a publish on two
directories that differ in value states only takes the same decisions.
-/
import AkdModel.Lemmas.DirStates
namespace Akd.Tomb
open Akd

/-- the per-record rewrite of `Dir.tombstone` -/
def tf (u : Bytes) (e : Nat) (s : ValueState) : ValueState :=
  if s.username = u ∧ s.epoch ≤ e ∧ s.value ≠ [] then { s with value := [] } else s

/-- the position-wise relation of `SameUpToValues` -/
def VRel (u : Bytes) (cut : Nat) (s s' : ValueState) : Prop :=
  s'.username = s.username ∧ s'.epoch = s.epoch ∧ s'.version = s.version ∧ s'.label = s.label ∧
  (s'.value = s.value ∨ (s.username = u ∧ s.epoch ≤ cut ∧ s'.value = []))

theorem tombstone_eq (d : Dir) (u : Bytes) (e : Nat) :
    d.tombstone u e = if (d.states.filter (fun s => s.username = u)).isEmpty then .error .notFound
      else .ok { d with states := d.states.map (tf u e) } := rfl

theorem tombstone_nonempty {d d' : Dir} {u : Bytes} {e : Nat} (h : d.tombstone u e = .ok d') :
    (d.states.filter (fun s => s.username = u)).isEmpty = false := by
  rw [tombstone_eq] at h
  split at h
  · cases h
  · next hn => exact eq_false_of_ne_true hn

theorem tombstone_ok {d d' : Dir} {u : Bytes} {e : Nat} (h : d.tombstone u e = .ok d') :
    d' = { d with states := d.states.map (tf u e) } := by
  rw [tombstone_eq] at h
  split at h <;> cases h
  rfl

theorem tf_username (u e s) : (tf u e s).username = s.username := by
  unfold tf; split <;> rfl

theorem tf_epoch (u e s) : (tf u e s).epoch = s.epoch := by
  unfold tf; split <;> rfl

theorem tf_version (u e s) : (tf u e s).version = s.version := by
  unfold tf; split <;> rfl

theorem tf_rel (u e s) : VRel u e s (tf u e s) := by
  unfold tf VRel
  split
  · next h => exact ⟨rfl, rfl, rfl, rfl, Or.inr ⟨h.1, h.2.1, rfl⟩⟩
  · exact ⟨rfl, rfl, rfl, rfl, Or.inl rfl⟩

theorem tf_eq_self {u e s} (h : s.username = u → e < s.epoch) : tf u e s = s := by
  unfold tf; rw [if_neg (fun h' => by have := h h'.1; have := h'.2.1; omega)]

theorem tf_tf (u : Bytes) (c1 c2 : Nat) (s : ValueState) :
    tf u c2 (tf u c1 s) = tf u (max c1 c2) s := by
  by_cases h1 : s.username = u ∧ s.epoch ≤ c1 ∧ s.value ≠ []
  · -- emptied by the first pass: the second finds nothing to do
    have hm : s.username = u ∧ s.epoch ≤ max c1 c2 ∧ s.value ≠ [] :=
      ⟨h1.1, Nat.le_trans h1.2.1 (Nat.le_max_left _ _), h1.2.2⟩
    simp only [tf, if_pos h1, if_pos hm]
    rw [if_neg (fun h => h.2.2 rfl)]
  · -- untouched by the first pass: below `max c1 c2` then means below `c2`
    have hm : (s.username = u ∧ s.epoch ≤ max c1 c2 ∧ s.value ≠ []) ↔ (s.username = u ∧ s.epoch ≤ c2 ∧ s.value ≠ []) :=
      ⟨fun h => ⟨h.1, by have := h.2.1; have : ¬ s.epoch ≤ c1 := fun hh => h1 ⟨h.1, hh, h.2.2⟩; omega, h.2.2⟩,
        fun h => ⟨h.1, Nat.le_trans h.2.1 (Nat.le_max_right _ _), h.2.2⟩⟩
    simp only [tf, if_neg h1, hm]

theorem vrel_refl (u cut s) : VRel u cut s s := ⟨rfl, rfl, rfl, rfl, Or.inl rfl⟩

theorem stateLeq_tomb {d d' : Dir} {u : Bytes} {cut : Nat} (h : d.tombstone u cut = .ok d') (u' : Bytes) (e : Nat)
    (hst : ∀ st, d.stateLeq u' e = some st → u' = u → cut < st.epoch) : d'.stateLeq u' e = d.stateLeq u' e := by
  rw [tombstone_ok h, Dir.stateLeq_map d _ (tf_username u cut) (tf_epoch u cut)]
  cases hs : d.stateLeq u' e with
  | none => rfl
  | some st => rw [Option.map_some, tf_eq_self (fun hu => hst st hs ((Dir.stateLeq_mem hs).2.1.symm.trans hu))]

theorem filter_other_map_tf (u u' : Bytes) (e : Nat) (hne : u' ≠ u) (l : List ValueState) :
    (l.map (tf u e)).filter (fun s => s.username = u') = l.filter (fun s => s.username = u') := by
  induction l with
  | nil => rfl
  | cons s l ih =>
    simp only [List.map_cons, List.filter_cons, tf_username, ih]
    split
    · next h => rw [tf_eq_self (fun hu => absurd ((of_decide_eq_true h).symm.trans hu) hne)]
    · rfl

theorem updateProof_states (c : Cfg) (d : Dir) (ss : List ValueState) :
    Dir.updateProof c { d with states := ss } = Dir.updateProof c d := rfl

theorem vrfLabel_states (d : Dir) (ss : List ValueState) :
    Dir.vrfLabel { d with states := ss } = Dir.vrfLabel d := rfl

theorem keyHistory_states_congr (c : Cfg) (d : Dir) (ss : List ValueState) (u : Bytes) (p : HistoryParams)
    (h : ss.filter (fun s => s.username = u) = d.states.filter (fun s => s.username = u)) :
    Dir.keyHistory c { d with states := ss } u p = d.keyHistory c u p := by
  unfold Dir.keyHistory
  simp only [h, updateProof_states, vrfLabel_states]

theorem vrfLabel_congr {d d' : Dir} (hv : d'.vrf = d.vrf) (u : Bytes) (f : Bool) (n : Nat) :
    d'.vrfLabel u f n = d.vrfLabel u f n := by
  unfold Dir.vrfLabel; rw [hv]

theorem deriveUpdates_congr (c : Cfg) {d d' : Dir} (cur : Nat)
    (hs : ∀ u', d'.stateLeq u' cur = d.stateLeq u' cur) (hv : d'.vrf = d.vrf)
    (hk : d'.commitmentKey = d.commitmentKey) (b : List (Bytes × Bytes)) :
    Dir.deriveUpdates c d' cur b = Dir.deriveUpdates c d cur b := by
  induction b with
  | nil => rfl
  | cons x rest ih =>
    obtain ⟨u, v⟩ := x
    unfold Dir.deriveUpdates
    rw [ih, hs u, hk]
    simp only [vrfLabel_congr hv]

inductive LRel (u : Bytes) (cut : Nat) : List ValueState → List ValueState → Prop
  | nil : LRel u cut [] []
  | cons {a b l l'} : VRel u cut a b → LRel u cut l l' → LRel u cut (a :: l) (b :: l')

theorem setState_rel (u : Bytes) (cut : Nat) (v : ValueState) :
    ∀ {l l' : List ValueState}, LRel u cut l l' →
      LRel u cut (Dir.setState l v) (Dir.setState l' v)
  | _, _, .nil => .cons (vrel_refl u cut v) .nil
  | _, _, .cons (a := s) (b := s') h t => by
    unfold Dir.setState
    rw [h.1, h.2.1]
    split
    · exact .cons (vrel_refl u cut v) t
    · exact .cons h (setState_rel u cut v t)

theorem foldl_setState_rel (u : Bytes) (cut : Nat) (sts : List ValueState) :
    ∀ {l l' : List ValueState}, LRel u cut l l' →
      LRel u cut (sts.foldl Dir.setState l) (sts.foldl Dir.setState l') := by
  induction sts with
  | nil => intro l l' h; exact h
  | cons v sts ih => intro l l' h; exact ih (setState_rel u cut v h)

theorem map_tf_rel (u : Bytes) (cut : Nat) (l : List ValueState) :
    LRel u cut l (l.map (tf u cut)) := by
  induction l with
  | nil => exact .nil
  | cons s l ih => exact .cons (tf_rel u cut s) ih

theorem rel_index {u : Bytes} {cut : Nat} {l l' : List ValueState} (h : LRel u cut l l') :
    l'.length = l.length ∧ ∀ i (hi : i < l.length) (hi' : i < l'.length), VRel u cut l[i] l'[i] := by
  induction h with
  | nil => exact ⟨rfl, fun i hi => absurd hi (Nat.not_lt_zero i)⟩
  | cons hh _ ih =>
    refine ⟨by simp only [List.length_cons, ih.1], fun i hi hi' => ?_⟩
    cases i with
    | zero => exact hh
    | succ i => exact ih.2 i (Nat.lt_of_succ_lt_succ hi) (Nat.lt_of_succ_lt_succ hi')

theorem publish_congr (c : Cfg) {d d' : Dir} (b : List (Bytes × Bytes))
    (hn : d'.nodes = d.nodes) (ha : d'.azks = d.azks)
    (hder : ∀ a, d.azks = some a →
      Dir.deriveUpdates c d' a.latestEpoch b = Dir.deriveUpdates c d a.latestEpoch b) :
    (∀ e, d.publish c b = .error e → d'.publish c b = .error e) ∧
    (∀ d₁ ep root, d.publish c b = .ok (d₁, ep, root) →
      ∃ (d₁' : Dir) (sts : List ValueState), d'.publish c b = .ok (d₁', ep, root) ∧ d₁'.nodes = d₁.nodes ∧ d₁'.azks = d₁.azks ∧
        d₁.states = sts.foldl Dir.setState d.states ∧ d₁'.states = sts.foldl Dir.setState d'.states) := by
  -- `publish` reads the value states in `deriveUpdates` (`hder`) and in the last step, the `setState` fold over
  -- the states derived; the step on the tree does not see them
  rw [Dir.publish_eq c d, Dir.publish_eq c d', hn, ha]
  split
  · exact ⟨fun e h => h, fun _ _ _ h => nomatch h⟩
  cases hz : d.azks with
  | none => exact ⟨fun e h => h, fun _ _ _ h => nomatch h⟩
  | some a =>
    simp only [hder a hz]
    cases Dir.deriveUpdates c d a.latestEpoch b with
    | error e => exact ⟨fun e h => h, fun _ _ _ h => nomatch h⟩
    | ok r =>
      obtain ⟨els, sts⟩ := r
      simp only
      cases Dir.treeStep c d.nodes a els with
      | error e => exact ⟨fun e h => h, fun _ _ _ h => nomatch h⟩
      | ok r =>
        obtain ⟨_ | ⟨ns, a'⟩, hh⟩ := r
        · refine ⟨fun _ h => (nomatch h), fun d₁ ep root h => ?_⟩
          cases h
          exact ⟨d', [], rfl, hn, ha, rfl, rfl⟩
        · refine ⟨fun _ h => (nomatch h), fun d₁ ep root h => ?_⟩
          cases h
          exact ⟨_, sts, rfl, rfl, rfl, rfl, rfl⟩
end Akd.Tomb
