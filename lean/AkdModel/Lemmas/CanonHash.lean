/-
The digests of the canonical trie: with a lawful configuration the digest of a (sub)trie
together with its label determines it (labels of at most 256 bits).
-/
import AkdModel.Lemmas.CanonLemmas
import AkdModel.Lemmas.OfBits
namespace Akd.Canon
open NodeLabel (ofBits_inj)

namespace Tree
open CTree

theorem azks_ne_emptyNode (c : Cfg) (hc : c.Lawful) : ∀ t : CTree, t.azks c .withLeafEpoch ≠ c.emptyNodeHash
  | leaf _ _ _ => hc.leaf_ne_emptyNode _ _
  | node _ _ _ => hc.parent_ne_emptyNode _ _ _ _

theorem azks_inj (c : Cfg) (hc : c.Lawful) : ∀ (t₁ t₂ : CTree), t₁.WF → t₂.WF →
    (∀ lf ∈ t₁.leaves, lf.lbl.length ≤ 256) → (∀ lf ∈ t₂.leaves, lf.lbl.length ≤ 256) →
    t₁.lbl = t₂.lbl → t₁.azks c .withLeafEpoch = t₂.azks c .withLeafEpoch → t₁ = t₂
  | leaf q v e, leaf q' v' e', _, _, _, _, hq, h => by
    obtain ⟨rfl, rfl⟩ := hc.leaf_inj _ _ _ _ h
    cases hq
    rfl
  | leaf q v e, node q' l' r', _, _, _, _, _, h => absurd h (hc.leaf_ne_parent _ _ _ _ _ _)
  | node q l r, leaf q' v' e', _, _, _, _, _, h => absurd h.symm (hc.leaf_ne_parent _ _ _ _ _ _)
  | node q l r, node q' l' r', w₁, w₂, b₁, b₂, hq, h => by
    obtain ⟨hlv, hll, hrv, hrl⟩ := hc.parent_inj _ _ _ _ _ _ _ _ h
    have bl : ∀ lf ∈ l.leaves, lf.lbl.length ≤ 256 := fun lf h => b₁ lf (List.mem_append_left _ h)
    have br : ∀ lf ∈ r.leaves, lf.lbl.length ≤ 256 := fun lf h => b₁ lf (List.mem_append_right _ h)
    have bl' : ∀ lf ∈ l'.leaves, lf.lbl.length ≤ 256 := fun lf h => b₂ lf (List.mem_append_left _ h)
    have br' : ∀ lf ∈ r'.leaves, lf.lbl.length ≤ 256 := fun lf h => b₂ lf (List.mem_append_right _ h)
    cases hq
    rw [azks_inj c hc l l' w₁.2.2.1 w₂.2.2.1 bl bl'
        (ofBits_inj (lbl_length_le w₁.2.2.1 bl) (lbl_length_le w₂.2.2.1 bl') hll) hlv,
      azks_inj c hc r r' w₁.2.2.2 w₂.2.2.2 br br'
        (ofBits_inj (lbl_length_le w₁.2.2.2 br) (lbl_length_le w₂.2.2.2 br') hrl) hrv]

end Tree

namespace Root
open CRoot

theorem child_inj (c : Cfg) (hc : c.Lawful) {b : Bool} {o₁ o₂ : Option CTree}
    (w₁ : ∀ a, o₁ = some a → [b] <+: a.lbl ∧ a.WF) (w₂ : ∀ a, o₂ = some a → [b] <+: a.lbl ∧ a.WF)
    (b₁ : ∀ lf ∈ (o₁.map CTree.leaves).getD [], lf.lbl.length ≤ 256)
    (b₂ : ∀ lf ∈ (o₂.map CTree.leaves).getD [], lf.lbl.length ≤ 256)
    (hv : childValue c .withLeafEpoch o₁ = childValue c .withLeafEpoch o₂)
    (hl : childLabel c o₁ = childLabel c o₂) : o₁ = o₂ := by
  cases o₁ with
  | none =>
    cases o₂ with
    | none => rfl
    | some b => exact absurd hv.symm (Tree.azks_ne_emptyNode c hc b)
  | some a =>
    cases o₂ with
    | none => exact absurd hv (Tree.azks_ne_emptyNode c hc a)
    | some b =>
      rw [Tree.azks_inj c hc a b (w₁ a rfl).2 (w₂ b rfl).2 b₁ b₂
        (ofBits_inj (Tree.lbl_length_le (w₁ a rfl).2 b₁) (Tree.lbl_length_le (w₂ b rfl).2 b₂) hl) hv]

theorem value_inj (c : Cfg) (hc : c.Lawful) (t₁ t₂ : CRoot) (h₁ : t₁.WF) (h₂ : t₂.WF)
    (hl₁ : ∀ lf ∈ t₁.leaves, lf.lbl.length ≤ 256) (hl₂ : ∀ lf ∈ t₂.leaves, lf.lbl.length ≤ 256)
    (h : t₁.value c .withLeafEpoch = t₂.value c .withLeafEpoch) : t₁ = t₂ := by
  obtain ⟨l₁, r₁⟩ := t₁
  obtain ⟨l₂, r₂⟩ := t₂
  have key : c.parentHash (childValue c .withLeafEpoch l₁) (childLabel c l₁)
        (childValue c .withLeafEpoch r₁) (childLabel c r₁) =
      c.parentHash (childValue c .withLeafEpoch l₂) (childLabel c l₂)
        (childValue c .withLeafEpoch r₂) (childLabel c r₂) → (⟨l₁, r₁⟩ : CRoot) = ⟨l₂, r₂⟩ := by
    intro h
    obtain ⟨hlv, hll, hrv, hrl⟩ := hc.parent_inj _ _ _ _ _ _ _ _ h
    have el : l₁ = l₂ := child_inj c hc h₁.1 h₂.1 (fun lf h => hl₁ lf (List.mem_append_left _ h))
      (fun lf h => hl₂ lf (List.mem_append_left _ h)) hlv hll
    have er : r₁ = r₂ := child_inj c hc h₁.2 h₂.2 (fun lf h => hl₁ lf (List.mem_append_right _ h))
      (fun lf h => hl₂ lf (List.mem_append_right _ h)) hrv hrl
    rw [el, er]
  unfold value at h
  split at h <;> split at h
  · simp_all
  · exact absurd h.symm (hc.parent_ne_emptyRoot _ _ _ _)
  · exact absurd h (hc.parent_ne_emptyRoot _ _ _ _)
  · exact key h

end Root
end Akd.Canon
