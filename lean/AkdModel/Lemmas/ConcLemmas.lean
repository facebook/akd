/-
The publish transition system (C12): `Inv base s` is the inductive invariant of the repaired protocol
(`Proto.fixed`), started from `Fresh` publishers; `VInv` is the invariant of the trace validator.
-/
import AkdModel.Conc
namespace Akd.Conc

/-- the commits are consecutive: the k-th one writes epoch `base + k + 1` -/
def Consecutive (base : Nat) (hist : List (Nat × Nat)) : Prop :=
  ∀ k (h : k < hist.length), (hist[k]).2 = base + k + 1

theorem Consecutive.concat {base : Nat} {hist : List (Nat × Nat)} (h : Consecutive base hist) (i : Nat) :
    Consecutive base (hist ++ [(i, base + hist.length + 1)]) := by
  intro k hk
  rw [List.getElem_append]
  split
  · exact h k _
  · rw [List.length_append, List.length_singleton] at hk
    have : k = hist.length := by omega
    subst this
    simp

theorem Consecutive.unique {base : Nat} {hist : List (Nat × Nat)} (h : Consecutive base hist) {i j e : Nat}
    (hi : (i, e) ∈ hist) (hj : (j, e) ∈ hist) : i = j := by
  obtain ⟨k, hk, hke⟩ := List.mem_iff_getElem.1 hi
  obtain ⟨k', hk', hke'⟩ := List.mem_iff_getElem.1 hj
  have h1 := h k hk
  have h2 := h k' hk'
  rw [hke] at h1
  rw [hke'] at h2
  have : k = k' := by simp only at h1 h2; omega
  subst this
  exact (Prod.mk.inj (hke.symm.trans hke')).1

/-- phases in which the publish mutex is held -/
def Crit : Pc → Prop
  | .readEpoch | .readVersions | .inserting _ | .commitWrite => True
  | _ => False

/-- phases after the epoch read, still inside the mutex -/
def Past : Pc → Prop
  | .readVersions | .inserting _ | .commitWrite => True
  | _ => False

/-- phases reached only by effective batches -/
def Writing : Pc → Prop
  | .inserting _ | .commitWrite => True
  | _ => False

@[simp] theorem crit_start : Crit .start = False := rfl
@[simp] theorem crit_readEpoch : Crit .readEpoch = True := rfl
@[simp] theorem crit_readVersions : Crit .readVersions = True := rfl
@[simp] theorem crit_inserting (k) : Crit (.inserting k) = True := rfl
@[simp] theorem crit_commitWrite : Crit .commitWrite = True := rfl
@[simp] theorem crit_readRoot : Crit .readRoot = False := rfl
@[simp] theorem crit_done (e) : Crit (.done e) = False := rfl
@[simp] theorem crit_refused : Crit .refused = False := rfl
@[simp] theorem past_start : Past .start = False := rfl
@[simp] theorem past_readEpoch : Past .readEpoch = False := rfl
@[simp] theorem past_readVersions : Past .readVersions = True := rfl
@[simp] theorem past_inserting (k) : Past (.inserting k) = True := rfl
@[simp] theorem past_commitWrite : Past .commitWrite = True := rfl
@[simp] theorem past_readRoot : Past .readRoot = False := rfl
@[simp] theorem past_done (e) : Past (.done e) = False := rfl
@[simp] theorem past_refused : Past .refused = False := rfl
@[simp] theorem writing_start : Writing .start = False := rfl
@[simp] theorem writing_readEpoch : Writing .readEpoch = False := rfl
@[simp] theorem writing_readVersions : Writing .readVersions = False := rfl
@[simp] theorem writing_inserting (k) : Writing (.inserting k) = True := rfl
@[simp] theorem writing_commitWrite : Writing .commitWrite = True := rfl
@[simp] theorem writing_readRoot : Writing .readRoot = False := rfl
@[simp] theorem writing_done (e) : Writing (.done e) = False := rfl
@[simp] theorem writing_refused : Writing .refused = False := rfl

structure Inv (base : Nat) (s : Sys) : Prop where
  hCons : ∀ k (h : k < s.hist.length), (s.hist[k]).2 = base + k + 1
  hEpoch : s.epoch = base + s.hist.length
  hCritLock : ∀ (i : Nat) (p : Pub), s.pubs[i]? = some p → Crit p.pc → s.lock = some i
  hLockCrit : ∀ h : Nat, s.lock = some h → ∃ p : Pub, s.pubs[h]? = some p ∧ Crit p.pc
  hSeen : ∀ (i : Nat) (p : Pub), s.pubs[i]? = some p → Past p.pc → p.seen = s.epoch
  hWriting : ∀ (i : Nat) (p : Pub), s.pubs[i]? = some p → Writing p.pc → p.changes = true
  hHistDone : ∀ (i e : Nat), (i, e) ∈ s.hist → ∃ p : Pub, s.pubs[i]? = some p ∧ p.pc = .done e ∧ p.changes = true
  hDoneHist : ∀ (i : Nat) (p : Pub) (e : Nat), s.pubs[i]? = some p → p.pc = .done e → p.changes = true → (i, e) ∈ s.hist
  hNoop : ∀ (i : Nat) (p : Pub) (e : Nat), s.pubs[i]? = some p → p.pc = .done e → p.changes = false → base ≤ e ∧ e ≤ s.epoch
  hNoBad : ∀ (i : Nat) (p : Pub), s.pubs[i]? = some p → p.pc ≠ .refused ∧ p.pc ≠ .readRoot

theorem getElem?_setPub {s : Sys} {i : Nat} {p : Pub} (p' : Pub) (h : s.pubs[i]? = some p) (j : Nat) (q : Pub) :
    (setPub s i p').pubs[j]? = some q ↔ (j = i ∧ q = p') ∨ (j ≠ i ∧ s.pubs[j]? = some q) := by
  have hi : i < s.pubs.length := (List.getElem?_eq_some_iff.1 h).1
  simp only [setPub, List.getElem?_set]
  by_cases hji : i = j
  · subst hji; simp [hi, eq_comm]
  · simp [hji, Ne.symm hji]

@[simp] theorem setPub_hist (s : Sys) (i : Nat) (p : Pub) : (setPub s i p).hist = s.hist := rfl
@[simp] theorem setPub_epoch (s : Sys) (i : Nat) (p : Pub) : (setPub s i p).epoch = s.epoch := rfl
@[simp] theorem setPub_lock (s : Sys) (i : Nat) (p : Pub) : (setPub s i p).lock = s.lock := rfl

theorem crit_not_done {pc : Pc} (h : Crit pc) (e : Nat) : pc ≠ .done e := by
  rintro rfl; exact h

theorem crit_noBad {pc : Pc} (h : Crit pc) : pc ≠ .refused ∧ pc ≠ .readRoot := by
  constructor <;> (rintro rfl; exact h)

theorem past_crit {pc : Pc} (h : Past pc) : Crit pc := by
  cases pc <;> first | trivial | exact h

theorem writing_past {pc : Pc} (h : Writing pc) : Past pc := by
  cases pc <;> first | trivial | exact h

/-- what the invariant says about one publisher -/
def PubOK (base : Nat) (s : Sys) (i : Nat) (p : Pub) : Prop :=
  (Crit p.pc → s.lock = some i) ∧ (Past p.pc → p.seen = s.epoch) ∧ (Writing p.pc → p.changes = true) ∧
  (∀ e, p.pc = .done e → p.changes = true → (i, e) ∈ s.hist) ∧
  (∀ e, p.pc = .done e → p.changes = false → base ≤ e ∧ e ≤ s.epoch) ∧ p.pc ≠ .refused ∧ p.pc ≠ .readRoot

theorem Inv.pubOK {base : Nat} {s : Sys} (hI : Inv base s) {i : Nat} {p : Pub} (hp : s.pubs[i]? = some p) :
    PubOK base s i p :=
  ⟨hI.hCritLock i p hp, hI.hSeen i p hp, hI.hWriting i p hp, fun e => hI.hDoneHist i p e hp,
    fun e => hI.hNoop i p e hp, hI.hNoBad i p hp⟩

theorem Inv.of_pubOK {base : Nat} {s : Sys} (hc : Consecutive base s.hist) (he : s.epoch = base + s.hist.length)
    (hl : ∀ h : Nat, s.lock = some h → ∃ p : Pub, s.pubs[h]? = some p ∧ Crit p.pc)
    (hh : ∀ (i e : Nat), (i, e) ∈ s.hist → ∃ p : Pub, s.pubs[i]? = some p ∧ p.pc = .done e ∧ p.changes = true)
    (hp : ∀ i p, s.pubs[i]? = some p → PubOK base s i p) : Inv base s :=
  ⟨hc, he, fun i p h => (hp i p h).1, hl, fun i p h => (hp i p h).2.1, fun i p h => (hp i p h).2.2.1, hh,
    fun i p e h => (hp i p h).2.2.2.1 e, fun i p e h => (hp i p h).2.2.2.2.1 e, fun i p h => (hp i p h).2.2.2.2.2⟩

def Fresh (pubs : List Pub) : Prop := ∀ p ∈ pubs, p.pc = .start

theorem inv_init (base : Nat) (pubs : List Pub) (hf : Fresh pubs) : Inv base (init base pubs) :=
  Inv.of_pubOK nofun rfl nofun nofun fun i p h => by
    simp [PubOK, hf p (List.mem_of_getElem? h)]

/-- The shape every step of the repaired protocol has.  It is the turn of publisher `i`: it holds the mutex, or
nobody does and `i` is at `start`.  Its record becomes `p'`, the mutex is then held by `i` or free, and the log
is left alone or gets `i`'s commit of the next epoch.  Nobody else is in the critical section, so of what the
invariant says about the others only the clauses on returned publishers matter, and those survive a longer
log and a later epoch. -/
theorem inv_setPub {base : Nat} {s : Sys} {i : Nat} {p : Pub} (g : Sys) (p' : Pub) (hI : Inv base s)
    (hp : s.pubs[i]? = some p) (hg : g.pubs = s.pubs)
    (hturn : Crit p.pc ∨ s.lock = none ∧ p.pc = .start)
    (hlog : g.hist = s.hist ∧ g.epoch = s.epoch ∨
      g.hist = s.hist ++ [(i, g.epoch)] ∧ g.epoch = s.epoch + 1 ∧ p'.pc = .done g.epoch ∧ p'.changes = true)
    (hlock : ∀ h, g.lock = some h → h = i ∧ Crit p'.pc) (hp' : PubOK base g i p') :
    Inv base (setPub g i p') := by
  have hget := getElem?_setPub p' (hg ▸ hp : g.pubs[i]? = some p)
  have hnd : ∀ e, p.pc ≠ .done e := by
    rintro e he
    rcases hturn with hc | ⟨_, hs⟩
    · exact crit_not_done hc e he
    · cases hs.symm.trans he
  have hothers : ∀ j q, j ≠ i → s.pubs[j]? = some q → ¬ Crit q.pc := by
    intro j q hne hq hcq
    have hj := hI.hCritLock j q hq hcq
    rcases hturn with hc | ⟨hl, _⟩
    · exact hne (Option.some.inj (hj.symm.trans (hI.hCritLock i p hp hc)))
    · cases hl.symm.trans hj
  have hmono : (∀ x ∈ s.hist, x ∈ g.hist) ∧ s.epoch ≤ g.epoch := by
    rcases hlog with ⟨hh, he⟩ | ⟨hh, he, -⟩
    · rw [hh, he]; exact ⟨fun _ h => h, Nat.le_refl _⟩
    · rw [hh, he]; exact ⟨fun _ h => List.mem_append_left _ h, Nat.le_succ _⟩
  refine Inv.of_pubOK ?_ ?_ ?_ ?_ ?_
  · rcases hlog with ⟨hh, -⟩ | ⟨hh, he, -⟩
    · exact hh ▸ hI.hCons
    · rw [setPub_hist, hh, he, hI.hEpoch]; exact Consecutive.concat hI.hCons i
  · rcases hlog with ⟨hh, he⟩ | ⟨hh, he, -⟩
    · rw [setPub_epoch, setPub_hist, hh, he]; exact hI.hEpoch
    · rw [setPub_epoch, setPub_hist, hh, List.length_append, he, hI.hEpoch]; rfl
  · intro h hh
    obtain ⟨rfl, hc⟩ := hlock h hh
    exact ⟨p', (hget h p').2 (.inl ⟨rfl, rfl⟩), hc⟩
  · intro j e hje
    have hold : (j, e) ∈ s.hist → ∃ q, (setPub g i p').pubs[j]? = some q ∧ q.pc = .done e ∧ q.changes = true := by
      intro hje
      obtain ⟨q, hq, hqd, hqc⟩ := hI.hHistDone j e hje
      have hne : j ≠ i := by
        rintro rfl
        exact hnd e (Option.some.inj (hp.symm.trans hq) ▸ hqd)
      exact ⟨q, (hget j q).2 (.inr ⟨hne, hg ▸ hq⟩), hqd, hqc⟩
    rcases hlog with ⟨hh, -⟩ | ⟨hh, -, hd, hc⟩
    · exact hold (hh ▸ hje)
    · rw [setPub_hist, hh] at hje
      rcases List.mem_append.1 hje with hje | hje
      · exact hold hje
      · cases List.mem_singleton.1 hje
        exact ⟨p', (hget i p').2 (.inl ⟨rfl, rfl⟩), hd, hc⟩
  · intro j q hq
    rcases (hget j q).1 hq with ⟨rfl, rfl⟩ | ⟨hne, hq'⟩
    · exact hp'
    · rw [hg] at hq'
      have hnc := hothers j q hne hq'
      obtain ⟨-, -, -, h4, h5, h6⟩ := hI.pubOK hq'
      exact ⟨fun h => absurd h hnc, fun h => absurd (past_crit h) hnc,
        fun h => absurd (past_crit (writing_past h)) hnc, fun e hd hc => hmono.1 _ (h4 e hd hc),
        fun e hd hc => ⟨(h5 e hd hc).1, Nat.le_trans (h5 e hd hc).2 hmono.2⟩, h6⟩

theorem inv_local {base : Nat} {s : Sys} {i : Nat} {p : Pub} (p' : Pub) (hI : Inv base s)
    (hp : s.pubs[i]? = some p) (hc : Crit p.pc) (hc' : Crit p'.pc)
    (hs' : Past p'.pc → p'.seen = s.epoch) (hw' : Writing p'.pc → p'.changes = true) :
    Inv base (setPub s i p') :=
  have hl := hI.hCritLock i p hp hc
  inv_setPub s p' hI hp rfl (.inl hc) (.inl ⟨rfl, rfl⟩)
    (fun _ hh => ⟨Option.some.inj (hl.symm.trans hh).symm, hc'⟩)
    ⟨fun _ => hl, hs', hw', fun e hd => absurd hd (crit_not_done hc' e),
      fun e hd => absurd hd (crit_not_done hc' e), crit_noBad hc'⟩

theorem inv_step {base : Nat} {s s' : Sys} {i : Nat} (hI : Inv base s) (h : step .fixed s i = some s') :
    Inv base s' := by
  unfold step at h
  split at h
  · cases h
  rename_i p hp
  cases hpc : p.pc with
  | start =>
    simp only [hpc] at h
    split at h <;> cases h
    rename_i hl
    exact inv_setPub _ _ hI hp rfl (.inr ⟨by simpa using hl, hpc⟩) (.inl ⟨rfl, rfl⟩)
      (fun _ hh => ⟨(Option.some.inj hh).symm, trivial⟩) (by simp [PubOK])
  | readEpoch =>
    simp only [hpc] at h
    cases h
    exact inv_local _ hI hp (by simp [hpc]) (by simp) (fun _ => rfl) (by simp)
  | readVersions =>
    have hs := hI.hSeen i p hp (by simp [hpc])
    simp only [hpc] at h
    split at h <;> cases h <;> rename_i hch
    · exact inv_local _ hI hp (by simp [hpc]) (by simp) (fun _ => hs) (fun _ => hch)
    · -- a no-op batch returns the epoch it saw and frees the mutex
      exact inv_setPub _ _ hI hp rfl (.inl (by simp [hpc])) (.inl ⟨rfl, rfl⟩) nofun
        (by simp [PubOK, hs, hch, hI.hEpoch])
  | inserting k =>
    have hs := hI.hSeen i p hp (by simp [hpc])
    have hw := hI.hWriting i p hp (by simp [hpc])
    simp only [hpc] at h
    cases k <;> cases h <;> exact inv_local _ hI hp (by simp [hpc]) (by simp) (fun _ => hs) (fun _ => hw)
  | commitWrite =>
    have hs := hI.hSeen i p hp (by simp [hpc])
    have hw := hI.hWriting i p hp (by simp [hpc])
    simp only [hpc] at h
    cases h
    exact inv_setPub _ _ hI hp rfl (.inl (by simp [hpc])) (.inr ⟨rfl, congrArg (· + 1) hs, rfl, hw⟩) nofun
      (by simp [PubOK, hw])
  | readRoot | done | refused => simp [hpc] at h

theorem inv_run {base : Nat} (sched : List Nat) {s : Sys} (hI : Inv base s) : Inv base (run .fixed s sched) := by
  induction sched generalizing s with
  | nil => exact hI
  | cons i rest ih =>
    simp only [run, List.foldl_cons]
    cases h : step .fixed s i with
    | none => exact ih hI
    | some s' => exact ih (inv_step hI h)

theorem inv_reachable (base : Nat) (pubs : List Pub) (hf : Fresh pubs) (sched : List Nat) :
    Inv base (run .fixed (init base pubs) sched) :=
  inv_run sched (inv_init base pubs hf)

theorem enabled {s : Sys} {i : Nat} {p : Pub} (hp : s.pubs[i]? = some p)
    (h : Crit p.pc ∨ p.pc = .start ∧ s.lock = none) : (step .fixed s i).isSome := by
  unfold step
  simp only [hp]
  cases hpc : p.pc with
  | readVersions => cases p.changes <;> rfl
  | inserting k => cases k <;> rfl
  | start => simp [hpc] at h; simp [h]
  | readEpoch | commitWrite => rfl
  | readRoot | done | refused => simp [hpc] at h

def VInv (base : Nat) (v : VState) : Prop :=
  Consecutive base v.outcomes ∧ v.epoch = base + v.outcomes.length

theorem vinv_commit {base : Nat} {v : VState} (t k : Nat) (hv : VInv base v) (hk : k = v.epoch + 1) :
    VInv base { epoch := k, holder := none, outcomes := v.outcomes ++ [(t, k)] } := by
  rw [hk, hv.2]
  exact ⟨hv.1.concat t, by rw [List.length_append]; rfl⟩

/-- only a commit changes what `VInv` speaks of, and it is accepted only with the next epoch -/
theorem vinv_step {base : Nat} {v v' : VState} (e : Nat × Ev) (hv : VInv base v)
    (h : validateStep v e = .ok v') : VInv base v' := by
  obtain ⟨t, ev⟩ := e
  cases ev with
  | commit k =>
    simp only [validateStep] at h
    repeat' split at h
    all_goals cases h
    all_goals exact vinv_commit t k hv ‹_›
  | getAzks | read =>
    simp only [validateStep] at h
    repeat' split at h
    all_goals cases h
    all_goals exact hv

theorem vinv_foldlM {base : Nat} (tr : List (Nat × Ev)) {v0 v : VState} (hv : VInv base v0)
    (h : tr.foldlM validateStep v0 = .ok v) : VInv base v := by
  induction tr generalizing v0 with
  | nil => cases h; exact hv
  | cons e rest ih =>
    rw [List.foldlM_cons] at h
    cases hs : validateStep v0 e with
    | error m => rw [hs] at h; cases h
    | ok v1 => rw [hs] at h; exact ih (vinv_step e hv hs) h

end Akd.Conc
