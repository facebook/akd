/-
C11, store level: facts about `batchInsert` inside a transaction that need no knowledge of the tree —
the database is not touched, every written version is of an epoch `≤` the new epoch, and keys that
are new in this epoch resolve to "not found" at the previous epoch.  The last two come from one
generic induction through the code (`abs_batchInsert`, `InsertInv.lean`): a store invariant `P` and a node invariant `Q`.
-/
import AkdModel.Lemmas.PublishStore
namespace Akd.Part
open Akd NodeStore

theorem resolve_le {r : NodeRec} {t : Nat} {n : TreeNode} (h : r.resolve t = .ok n) : n.lastEpoch ≤ t := by
  rcases NodeRec.resolve_eq_ok.1 h with ⟨h1, rfl⟩ | ⟨_, _, h3⟩
  · exact h1
  · exact h3

theorem resolve_version {r : NodeRec} {t : Nat} {n : TreeNode} (h : r.resolve t = .ok n) :
    n = r.latest ∨ r.previous = some n :=
  (NodeRec.resolve_eq_ok.1 h).imp (fun h => h.2.symm) (fun h => h.2.1)

theorem resolve_down {r : NodeRec} {t t' : Nat} {n : TreeNode} (h : r.resolve t = .ok n) (hle : t' ≤ t)
    (hn : n.lastEpoch ≤ t') : r.resolve t' = .ok n := by
  rcases NodeRec.resolve_eq_ok.1 h with ⟨_, rfl⟩ | ⟨h1, h2, _⟩
  · exact NodeRec.resolve_eq_ok.2 (.inl ⟨hn, rfl⟩)
  · exact NodeRec.resolve_eq_ok.2 (.inr ⟨Nat.lt_of_le_of_lt hle h1, h2, hn⟩)

theorem db_setRec (s : NodeStore) (r : NodeRec) (h : s.inTxn = true) :
    (s.setRec r).db = s.db ∧ (s.setRec r).inTxn = true := by
  unfold NodeStore.setRec
  rw [if_pos h]
  exact ⟨rfl, h⟩

theorem keeps_db {c : Cfg} {m : InsertMode} {s s' : NodeStore} {a a' : Azks} {els : List (NodeLabel × Dig)}
    (D : NodeMap) (h : s.batchInsert c m a els = .ok (s', a')) (hs : s.db = D ∧ s.inTxn = true) :
    s'.db = D ∧ s'.inTxn = true :=
  Pub.inv_batchInsert (fun s => s.db = D ∧ s.inTxn = true)
    (fun s r hs => ⟨(db_setRec s r hs.2).1.trans hs.1, (db_setRec s r hs.2).2⟩) h hs

theorem log_begin {s : NodeStore} (h : s.log = []) (k : NodeLabel) (r : NodeRec) : s.begin.log.get? k ≠ some r := by
  simp [NodeStore.begin, h, NodeMap.get?]

theorem getRec_txn {s : NodeStore} {k : NodeLabel} {r : NodeRec} (ht : s.inTxn = true)
    (h : s.getRec k = some r) :
    s.log.get? k = some r ∨ (s.log.get? k = none ∧ s.db.get? k = some r) := by
  unfold NodeStore.getRec at h
  rw [if_pos ht] at h
  cases hl : s.log.get? k with
  | none => rw [hl] at h; exact .inr ⟨rfl, h⟩
  | some r' => rw [hl] at h; exact .inl h

theorem getNode_rec {s : NodeStore} {k : NodeLabel} {t : Nat} {n : TreeNode} (h : s.getNode k t = .ok n) :
    ∃ r, s.getRec k = some r ∧ r.resolve t = .ok n := by
  unfold NodeStore.getNode at h
  cases hr : s.getRec k with
  | none => rw [hr] at h; cases h
  | some r => rw [hr] at h; exact ⟨r, rfl, h⟩

theorem log_setRec (s : NodeStore) (r : NodeRec) (ht : s.inTxn = true) (k : NodeLabel) :
    (s.setRec r).log.get? k = if k = r.label then some r else s.log.get? k := by
  unfold NodeStore.setRec
  rw [if_pos ht]
  exact NodeMap.get?_set _ _ _

theorem writeNode_cases {s s' : NodeStore} {n : TreeNode} {b : Bool} (h : s.writeNode n b = .ok s') :
    ∃ p, s' = s.setRec ⟨n.label, n, p⟩ ∧
      (p = none ∨ ∃ p', p = some p' ∧ b = false ∧
        s.getNode n.label (if n.lastEpoch > 0 then n.lastEpoch - 1 else n.lastEpoch) = .ok p') := by
  unfold NodeStore.writeNode at h
  cases b
  · simp only [Bool.false_eq_true, if_false] at h
    generalize htgt : (if n.lastEpoch > 0 then n.lastEpoch - 1 else n.lastEpoch) = tgt at h
    rcases Ins.getNode_cases s n.label tgt with ⟨p, hp⟩ | hp
    · rw [hp] at h; cases h; exact ⟨some p, rfl, .inr ⟨p, rfl, rfl, hp⟩⟩
    · rw [hp] at h; cases h; exact ⟨none, rfl, .inl rfl⟩
  · simp only [if_true] at h
    cases h; exact ⟨none, rfl, .inl rfl⟩

/-- all versions in the log are of an epoch `≤ E` -/
def LogLe (E : Nat) (s : NodeStore) : Prop :=
  s.inTxn = true ∧ ∀ k r, s.log.get? k = some r → r.latest.lastEpoch ≤ E

theorem logLe_batchInsert {c : Cfg} {mode : InsertMode} {s s' : NodeStore} {a a' : Azks}
    {nodes : List (NodeLabel × Dig)} (h : s.batchInsert c mode a nodes = .ok (s', a'))
    (hs : LogLe (a.latestEpoch + 1) s) : LogLe (a.latestEpoch + 1) s' := by
  refine Ins.abs_batchInsert c (LogLe (a.latestEpoch + 1)) (fun n => n.lastEpoch ≤ a.latestEpoch + 1)
    ?_ ?_ ?_ (fun _ _ => Nat.le_refl _) (fun _ => Nat.le_refl _) (fun _ _ h => h) h hs
  · intro s k n _ hg
    obtain ⟨r, _, hr⟩ := getNode_rec hg
    exact resolve_le hr
  · intro s n b s' hp hq hw
    obtain ⟨p, rfl, _⟩ := writeNode_cases hw
    refine ⟨(db_setRec s _ hp.1).2, fun k r hk => ?_⟩
    rw [log_setRec s _ hp.1] at hk
    split at hk
    · cases hk; exact hq
    · exact hp.2 k r hk
  · intro a b a' b' ha hb hsc
    obtain ⟨_, h2, h3⟩ := Ins.setChild_shape hsc
    subst h3
    exact ⟨by rw [h2]; exact Nat.max_le.2 ⟨ha, hb⟩, hb⟩

/-- every record is stored under the label of its node versions (in the implementation the storage key
IS the label of the record; the model's `NodeMap` does not enforce it) -/
def _root_.Akd.C11.WellKeyed (db : NodeMap) : Prop :=
  ∀ k r, db.get? k = some r → r.latest.label = k ∧ ∀ p, r.previous = some p → p.label = k

open Akd.C11 (WellKeyed)

theorem wellKeyed_label {m : NodeMap} (h : WellKeyed m) {k : NodeLabel} {r : NodeRec} (hr : m.get? k = some r)
    {n : TreeNode} (hv : n = r.latest ∨ r.previous = some n) : n.label = k := by
  rcases hv with rfl | hv
  · exact (h k r hr).1
  · exact (h k r hr).2 n hv

/-- the transaction invariant for new keys: the log is well keyed, and a key that is not in the
database holds one version, of the new epoch -/
structure NewInv (D : NodeMap) (E : Nat) (s : NodeStore) : Prop where
  db : s.db = D
  txn : s.inTxn = true
  keyed : WellKeyed s.log
  fresh : ∀ k r, s.log.get? k = some r → D.get? k = none → r.latest.lastEpoch = E ∧ r.previous = none

def NewNode (D : NodeMap) (E : Nat) (n : TreeNode) : Prop :=
  n.lastEpoch ≤ E ∧ (D.get? n.label = none → n.lastEpoch = E)

theorem newInv_begin {s : NodeStore} (h : s.log = []) (E : Nat) : NewInv s.db E s.begin :=
  ⟨rfl, rfl, fun k r hk => absurd hk (log_begin h k r), fun k r hk => absurd hk (log_begin h k r)⟩

theorem newInv_getNode {D : NodeMap} {E : Nat} (hD : WellKeyed D) {s : NodeStore} (hs : NewInv D E s)
    {k : NodeLabel} {t : Nat} {n : TreeNode} (hg : s.getNode k t = .ok n) :
    n.label = k ∧ (D.get? k = none → n.lastEpoch = E ∧ E ≤ t) := by
  obtain ⟨r, hr, hres⟩ := getNode_rec hg
  have hv := resolve_version hres
  rcases getRec_txn hs.txn hr with hl | ⟨_, hd⟩
  · refine ⟨wellKeyed_label hs.keyed hl hv, fun hnone => ?_⟩
    obtain ⟨f1, f2⟩ := hs.fresh k r hl hnone
    rcases hv with rfl | hv
    · exact ⟨f1, f1 ▸ resolve_le hres⟩
    · rw [f2] at hv; cases hv
  · rw [hs.db] at hd
    exact ⟨wellKeyed_label hD hd hv, fun hnone => by rw [hnone] at hd; cases hd⟩

theorem newInv_batchInsert {c : Cfg} {mode : InsertMode} {s s' : NodeStore} {a a' : Azks}
    {nodes : List (NodeLabel × Dig)} (D : NodeMap) (hD : WellKeyed D)
    (h : s.batchInsert c mode a nodes = .ok (s', a'))
    (hs : NewInv D (a.latestEpoch + 1) s) : NewInv D (a.latestEpoch + 1) s' := by
  refine Ins.abs_batchInsert c (NewInv D (a.latestEpoch + 1)) (NewNode D (a.latestEpoch + 1))
    ?_ ?_ ?_ (fun _ _ => ⟨Nat.le_refl _, fun _ => rfl⟩) (fun _ => ⟨Nat.le_refl _, fun _ => rfl⟩)
    (fun _ _ h => h) h hs
  · intro s k n hp hg
    obtain ⟨h1, h2⟩ := newInv_getNode hD hp hg
    obtain ⟨r, _, hr⟩ := getNode_rec hg
    exact ⟨resolve_le hr, fun hnone => (h2 (h1 ▸ hnone)).1⟩
  · intro s n b s' hp hq hw
    obtain ⟨p, rfl, hpv⟩ := writeNode_cases hw
    refine ⟨(db_setRec s _ hp.txn).1.trans hp.db, (db_setRec s _ hp.txn).2, ?_, ?_⟩
    · intro k r hk
      rw [log_setRec s _ hp.txn] at hk
      split at hk
      · rename_i hkl
        cases hk
        refine ⟨hkl.symm, fun p' hp' => ?_⟩
        rcases hpv with rfl | ⟨p'', rfl, _, hg⟩
        · cases hp'
        · cases hp'
          exact (newInv_getNode hD hp hg).1.trans hkl.symm
      · exact hp.keyed k r hk
    · intro k r hk hnone
      rw [log_setRec s _ hp.txn] at hk
      split at hk
      · rename_i hkl
        cases hk
        have hkl' : k = n.label := hkl
        subst hkl'
        have hE : n.lastEpoch = a.latestEpoch + 1 := hq.2 hnone
        refine ⟨hE, ?_⟩
        rcases hpv with rfl | ⟨p'', rfl, _, hg⟩
        · rfl
        · exfalso
          have := (newInv_getNode hD hp hg).2 hnone
          rw [hE] at this
          have := this.2
          rw [if_pos (by omega)] at this
          omega
      · exact hp.fresh k r hk hnone
  · intro a b a' b' ha hb hsc
    obtain ⟨h1, h2, h3⟩ := Ins.setChild_shape hsc
    subst h3
    refine ⟨⟨by rw [h2]; exact Nat.max_le.2 ⟨ha.1, hb.1⟩, fun hnone => ?_⟩, hb⟩
    rw [h1] at hnone
    have := ha.2 hnone
    have := hb.1
    rw [h2]
    omega

end Akd.Part
