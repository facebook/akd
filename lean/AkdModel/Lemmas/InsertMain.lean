/-
The induction over `insertRec` (C01b, C11, C13c, C13d).  On a represented sub-tree (or an empty position) and a
prefix-free batch, `insertRec` computes a well-formed tree with exactly the old and the new leaves, represents its
children, writes only under labels of that tree (`Chg`), and keeps every store invariant `I` that the three kinds of
writes it performs keep (`WriteInv`).
-/
import AkdModel.Lemmas.InsertStep
import AkdModel.Lemmas.InsertLabels
namespace Akd.Ins
open Akd NodeLabel NodeStore
open Akd.Canon (Incomp)

/-- the leaves a batch adds at epoch `ep` -/
def newLeaves (els : List (BitStr × Dig)) (ep : Nat) : List Leaf := els.map fun x => ⟨x.1, x.2, ep⟩

def LeafOK (epoch : Nat) (lf : Leaf) : Prop := 1 ≤ lf.ep ∧ lf.ep ≤ epoch ∧ lf.lbl.length ≤ 256

theorem leafOK_of_perm {epoch : Nat} (hep : 1 ≤ epoch) {old : List Leaf} {bs : List (BitStr × Dig)}
    {ls : List Leaf} (hp : ls.Perm (old ++ newLeaves bs epoch)) (hold : ∀ lf ∈ old, LeafOK epoch lf)
    (hbs : ∀ b ∈ bs, b.1.length ≤ 256) : ∀ lf ∈ ls, LeafOK epoch lf := by
  intro lf h
  rcases List.mem_append.1 (hp.mem_iff.1 h) with h | h
  · exact hold lf h
  · obtain ⟨b, hb, rfl⟩ := List.mem_map.1 h
    exact ⟨hep, Nat.le_refl _, hbs b hb⟩

theorem incomp_old_new {old : List Leaf} {bs : List (BitStr × Dig)} {ep : Nat}
    (hpf : (old ++ newLeaves bs ep).Pairwise Incomp) :
    ∀ a ∈ old, ∀ b ∈ bs, ¬ a.lbl <+: b.1 ∧ ¬ b.1 <+: a.lbl := by
  intro a ha b hb
  rw [List.pairwise_append] at hpf
  exact hpf.2.2 a ha ⟨b.1, b.2, ep⟩ (List.mem_map_of_mem hb)

/-- the optional sub-tree found at position `pre` is represented in `s`; its leaves are not newer than `epoch` -/
def Sub (c : Cfg) (m : InsertMode) (epoch : Nat) (s : NodeStore) (pre : BitStr) (ot : Option CTree) : Prop :=
  ∀ t, ot = some t → Rep c m s t ∧ t.WF ∧ pre <+: t.lbl ∧ ∀ lf ∈ t.leaves, LeafOK epoch lf

theorem Sub.leafok {c m epoch s pre ot} (h : Sub c m epoch s pre ot) : ∀ lf ∈ oleaves ot, LeafOK epoch lf := by
  cases ot with
  | none => intro lf hlf; simp [oleaves] at hlf
  | some t => exact (h t rfl).2.2.2

/-- `ch` with the child on side `d` replaced -/
def upd (ch : Bool → Option CTree) (d : Bool) (o : Option CTree) : Bool → Option CTree :=
  fun b => if b = d then o else ch b

theorem upd_same (ch : Bool → Option CTree) (d : Bool) (o : Option CTree) : upd ch d o d = o := if_pos rfl

theorem upd_ne (ch : Bool → Option CTree) {d b : Bool} (o : Option CTree) (h : b ≠ d) : upd ch d o b = ch b :=
  if_neg h

theorem upd_self (ch : Bool → Option CTree) (d : Bool) : upd ch d (ch d) = ch :=
  funext fun b => by unfold upd; split <;> simp [*]

/-- the node being worked on in Phase 2: label `p`, optional children `ch false` / `ch true`.  Its epoch fields are
those of the children set so far, unless the node was created in Phase 1: then they hold `epoch` already -/
structure St (c : Cfg) (m : InsertMode) (epoch : Nat) (p : BitStr) (ty : NodeType) (s : NodeStore)
    (cur : TreeNode) (ch : Bool → Option CTree) : Prop where
  label : cur.label = ofBits p
  type : cur.nodeType = ty
  child : ∀ d, cur.childLabel (.ofBit d) = olbl (ch d)
  last : cur.lastEpoch = epoch ∨ cur.lastEpoch = oMax (ch false) (ch true)
  min : cur.minDescEpoch = oMin (ch false) (ch true) ∨
    (cur.minDescEpoch = epoch ∧ ch false = none ∧ ch true = none)
  sub : ∀ d, Sub c m epoch s (p ++ [d]) (ch d)

theorem St.last_le {c m epoch p ty s cur ch} (h : St c m epoch p ty s cur ch) : cur.lastEpoch ≤ epoch := by
  rcases h.last with e | e
  · exact Nat.le_of_eq e
  · rw [e]
    apply oMax_le
    intro lf hlf
    rcases List.mem_append.1 hlf with hlf | hlf
    · exact ((h.sub false).leafok lf hlf).2.1
    · exact ((h.sub true).leafok lf hlf).2.1

/-- a store invariant that the writes of an insertion at `epoch` preserve; `K`: the labels that existed before -/
structure WriteInv (epoch : Nat) (K : BitStr → Prop) (I : NodeStore → Prop) : Prop where
  /-- a write under a key that did not exist before -/
  fresh : ∀ {s : NodeStore} (r : NodeRec) {q : BitStr}, I s → r.label = ofBits q → q.length ≤ 256 → ¬ K q →
    I (s.setRec r)
  /-- a (re)write of an existing node at the new epoch -/
  atEpoch : ∀ {s s' : NodeStore} {n : TreeNode}, I s → n.lastEpoch = epoch → s.writeNode n false = .ok s' → I s'
  /-- the decompression rewrite: the stored latest version under another `parent` -/
  reparent : ∀ {s s' : NodeStore} {r0 : NodeRec} (p : NodeLabel), I s → s.getRec r0.latest.label = some r0 →
    r0.latest.lastEpoch ≤ epoch → s.writeNode { r0.latest with parent := p } false = .ok s' → I s'

theorem WriteInv.trivial (epoch : Nat) : WriteInv epoch (fun _ => False) (fun _ => True) :=
  ⟨fun _ _ _ _ _ _ => True.intro, fun _ _ _ => True.intro, fun _ _ _ _ _ => True.intro⟩

theorem WriteInv.child {K : BitStr → Prop} {I : NodeStore → Prop} {epoch : Nat} (hI : WriteInv epoch K I)
    {s s' : NodeStore} (hs : I s) {n : TreeNode} {isNew : Bool} {q : BitStr}
    (hl : n.label = ofBits q) (hq : q.length ≤ 256) (hn : n.lastEpoch = epoch)
    (hnew : isNew = true → ¬ K q) (hw : s.writeNode n isNew = .ok s') : I s' := by
  cases isNew
  · exact hI.atEpoch hs hn hw
  · cases (s.writeNode_new n).symm.trans hw
    exact hI.fresh _ hs hl hq (hnew rfl)

/-- what a call of `insertRec` at position `pre`, holding the optional sub-tree `ot`, returns: the root node (not yet
written) of a tree `t'` with the old and the new leaves, whose children are represented -/
def Concl (K : BitStr → Prop) (I : NodeStore → Prop) (c : Cfg) (m : InsertMode) (epoch fuel : Nat) (s : NodeStore)
    (pre : BitStr) (ot : Option CTree) (set : ElementSet Dig) (bs : List (BitStr × Dig)) : Prop :=
  ∃ s' n isNew num t',
    insertRec c m epoch fuel s (olbl ot) set = .ok (s', n, isNew, num) ∧
    NodeIs c m t' n ∧ RepKids c m s' t' ∧ t'.WF ∧ pre <+: t'.lbl ∧
    t'.leaves.Perm (oleaves ot ++ newLeaves bs epoch) ∧
    I s' ∧ (isNew = true → ¬ K t'.lbl) ∧
    Chg s s' (fun q => q ∈ lbls t') ∧ ∀ q ∈ olbls ot, q ∈ lbls t'

/-- the specification of `insertRec` at a given amount of fuel, for a store invariant `I` and the pre-existing labels `K` -/
def Spec (K : BitStr → Prop) (I : NodeStore → Prop) (c : Cfg) (m : InsertMode) (epoch fuel : Nat) : Prop :=
  ∀ (s : NodeStore) (pre : BitStr) (ot : Option CTree) (set : ElementSet Dig) (bs : List (BitStr × Dig)),
    257 ≤ fuel + pre.length → 1 ≤ pre.length → Batch set bs pre → bs ≠ [] → Sub c m epoch s pre ot →
    (oleaves ot ++ newLeaves bs epoch).Pairwise Incomp → I s → GK K pre ot →
    Concl K I c m epoch fuel s pre ot set bs

theorem min_step (epoch : Nat) (d : Bool) (ch : Bool → Option CTree) (t' : CTree) (cm : Nat)
    (hinv : cm = oMin (ch false) (ch true) ∨ (cm = epoch ∧ ch false = none ∧ ch true = none))
    (h2 : minEp t' ≤ epoch) (h3 : ∀ b x, ch b = some x → 1 ≤ minEp x)
    (h4 : ∀ y, ch d = some y → minEp t' ≤ minEp y) :
    (if cm = 0 then minEp t' else min cm (minEp t'))
      = oMin (upd ch d (some t') false) (upd ch d (some t') true) := by
  cases d
  · exact oMin_step t' (ch false) (ch true) cm epoch hinv h2 h4 (h3 true)
  · show _ = oMin (ch false) (some t')
    rw [oMin_comm]
    exact oMin_step t' (ch true) (ch false) cm epoch
      (hinv.imp (·.trans (oMin_comm _ _)) (fun h => ⟨h.1, h.2.2, h.2.1⟩)) h2 h4 (h3 false)

theorem side_empty (rec : RecFn) (d : Direction) (s : NodeStore) (cur : TreeNode) (num : Nat)
    (sub : ElementSet Dig) (h : sub.elems = []) : side rec d s cur num sub = .ok (s, cur, num) := by
  unfold side
  rw [h]; rfl

theorem newLeaves_filter_sublist (bs : List (BitStr × Dig)) (f : BitStr × Dig → Bool) (ep : Nat) :
    (newLeaves (bs.filter f) ep).Sublist (newLeaves bs ep) :=
  (List.filter_sublist (l := bs)).map _

section
variable {K : BitStr → Prop} {I : NodeStore → Prop} (c : Cfg) (m : InsertMode) (epoch fuel : Nat)
  (hep : 1 ≤ epoch) (hI : WriteInv epoch K I) (hspec : Spec K I c m epoch fuel)
include hep hI hspec

/-- one side of Phase 2: the child `ch d` is replaced by the result `o'` of the recursive call (if there is one) -/
theorem side_spec {p : BitStr} {ty : NodeType} {s : NodeStore} {cur : TreeNode} {ch : Bool → Option CTree}
    (hst : St c m epoch p ty s cur ch) (d : Bool) (num : Nat)
    (hfuel : 257 ≤ fuel + (p.length + 1))
    {sub : ElementSet Dig} {bsd : List (BitStr × Dig)} (hb : Batch sub bsd (p ++ [d]))
    (hpf : (oleaves (ch d) ++ newLeaves bsd epoch).Pairwise Incomp)
    (hti : I s) (hgk : GK K (p ++ [d]) (ch d)) :
    ∃ s' cur' num' o', side (insertRec c m epoch fuel) (.ofBit d) s cur num sub = .ok (s', cur', num') ∧
      St c m epoch p ty s' cur' (upd ch d o') ∧
      (oleaves o').Perm (oleaves (ch d) ++ newLeaves bsd epoch) ∧
      (o' = none → ch d = none ∧ bsd = []) ∧ I s' ∧
      Chg s s' (fun q => q ∈ olbls o') ∧ ∀ q ∈ olbls (ch d), q ∈ olbls o' := by
  by_cases hne : bsd = []
  · subst hne
    exact ⟨s, cur, num, ch d, side_empty _ _ _ _ _ _ hb.elems, by rw [upd_self]; exact hst, by simp [newLeaves],
      fun h => ⟨h, rfl⟩, hti, Chg.refl _ _, fun _ h => h⟩
  obtain ⟨s1, n, isNew, lnum, t', hrec, hn, hkids, hwf, hpre, hperm, hti1, hnewK, hchg, hold⟩ :=
    hspec s (p ++ [d]) (ch d) sub bsd (by simp; omega) (by simp) hb hne (hst.sub d) hpf hti hgk
  have hlok : ∀ lf ∈ t'.leaves, LeafOK epoch lf :=
    leafOK_of_perm hep hperm (hst.sub d).leafok (fun b hb' => (hb.under b hb').2)
  have hlen : ∀ lf ∈ t'.leaves, lf.lbl.length ≤ 256 := fun lf h => (hlok lf h).2.2
  have hq : t'.lbl.length ≤ 256 := Canon.Tree.lbl_length_le hwf hlen
  obtain ⟨b0, hb0⟩ := List.exists_mem_of_ne_nil bsd hne
  have hnew : (⟨b0.1, b0.2, epoch⟩ : Leaf) ∈ t'.leaves :=
    hperm.mem_iff.2 (List.mem_append_right _ (List.mem_map_of_mem hb0))
  have hmax : maxEp t' = epoch := maxEp_eq t' epoch (fun lf h => (hlok lf h).2.1) _ hnew rfl
  obtain ⟨cur2, hsc, c1, c2, c3, c4, c5⟩ :=
    setChild_spec cur n p t'.lbl d hst.label (nodeIs_label hn) hq hpre
  have hn' := nodeIs_parent hn (ofBits p)
  obtain ⟨s2, hw⟩ := writeNode_total s1 { n with parent := ofBits p } isNew
  have hchg2 : Chg s s2 (fun q => q ∈ lbls t') :=
    hchg.trans (chg_writeNode hw t'.lbl (nodeIs_label hn') (lbl_mem_lbls t'))
  refine ⟨s2, cur2, num + lnum, some t', ?_,
    ⟨c1.trans hst.label, c2.trans hst.type, ?_, .inl ?_, .inl ?_, ?_⟩, hperm, nofun,
    hI.child hti1 (nodeIs_label hn') hq ((nodeIs_lastEpoch hn).trans hmax) hnewK hw, hchg2, hold⟩
  · unfold side
    rw [hb.isEmpty hne, hst.child d, hrec]
    simp only [Bool.false_eq_true, if_false]
    rw [hsc]
    simp only
    rw [hw]
  · intro b
    rw [c3 b]
    by_cases hbd : b = d
    · rw [if_pos hbd, hbd, upd_same, nodeIs_label hn]; rfl
    · rw [if_neg hbd, upd_ne _ _ hbd, hst.child b]
  · rw [c4, nodeIs_lastEpoch hn, hmax]
    have := hst.last_le
    omega
  · rw [c5, nodeIs_minDesc hn]
    apply min_step epoch d ch t' _ hst.min (minEp_le t' _ hnew)
    · exact fun b x hx => le_minEp x 1 (fun lf h => ((hst.sub b x hx).2.2.2 lf h).1)
    -- more leaves, smaller minimum
    · intro y hy
      apply le_minEp
      intro lf h
      exact minEp_le t' lf (hperm.mem_iff.2 (List.mem_append_left _ (by simp [oleaves, hy, h])))
  · intro b t hbt
    by_cases hbd : b = d
    · subst hbd
      rw [upd_same] at hbt
      cases hbt
      exact ⟨rep_write t' hwf hlen hw hn' hkids, hwf, hpre, hlok⟩
    · rw [upd_ne _ _ hbd] at hbt
      obtain ⟨hr, hw', hp', hl'⟩ := hst.sub b t hbt
      -- the labels of `t'` lie on the other side
      refine ⟨rep_chg hchg2 t hw' (fun lf h => (hl' lf h).2.2) (fun q hq' => ⟨lbls_length_le hwf hlen q hq', fun h => ?_⟩) hr,
        hw', hp', hl'⟩
      exact hbd (Canon.snoc_prefix_inj (hp'.trans h) (hpre.trans (lbls_prefix hwf q hq')))

/-- Phases 2 and 3: both sides, then `update_hash`; the node's fields are those of a node with children `ch'` -/
theorem finish {p : BitStr} {ty : NodeType} {s : NodeStore} {cur : TreeNode} {ch : Bool → Option CTree}
    (hst : St c m epoch p ty s cur ch) (hty : ty ≠ .leaf)
    (hfuel : 257 ≤ fuel + (p.length + 1)) (isNew : Bool) (num : Nat)
    {set : ElementSet Dig} {bs : List (BitStr × Dig)} (hb : Batch set bs p) (hne : bs ≠ [])
    (hstrict : ∀ b ∈ bs, p.length < b.1.length)
    (hpf : ((oleaves (ch false) ++ oleaves (ch true)) ++ newLeaves bs epoch).Pairwise Incomp)
    (hti : I s) (hgk : ∀ d, GK K (p ++ [d]) (ch d)) :
    ∃ s' cur' num' ch',
      phase23 c m (insertRec c m epoch fuel) s cur isNew num set = .ok (s', cur', isNew, num') ∧
      St c m epoch p ty s' cur' ch' ∧ cur'.hash = kidsHash c m (ch' false) (ch' true) ∧
      cur'.lastEpoch = epoch ∧ oMax (ch' false) (ch' true) = epoch ∧
      cur'.minDescEpoch = oMin (ch' false) (ch' true) ∧
      (oleaves (ch' false) ++ oleaves (ch' true)).Perm
        ((oleaves (ch false) ++ oleaves (ch true)) ++ newLeaves bs epoch) ∧
      (∀ d, ch' d = none → ch d = none ∧ bs.filter (goes p d) = []) ∧ I s' ∧
      Chg s s' (fun q => q ∈ olbls (ch' false) ∨ q ∈ olbls (ch' true)) ∧
      ∀ d, ∀ q ∈ olbls (ch d), q ∈ olbls (ch' d) := by
  obtain ⟨b0, hb0⟩ := List.exists_mem_of_ne_nil bs hne
  have hp256 : p.length ≤ 256 := by have := hstrict b0 hb0; have := (hb.under b0 hb0).2; omega
  obtain ⟨bL, bR⟩ := partition_spec hb hp256
  obtain ⟨s1, cur1, num1, oL, e1, st1, perm1, none1, ti1, chg1, old1⟩ :=
    side_spec c m epoch fuel hep hI hspec hst false num hfuel bL
      (hpf.sublist ((List.sublist_append_left _ _).append (newLeaves_filter_sublist bs _ epoch)))
      hti (hgk false)
  obtain ⟨s2, cur2, num2, oR, e2, st2, perm2, none2, ti2, chg2, old2⟩ :=
    side_spec c m epoch fuel hep hI hspec st1 true num1 hfuel bR
      (hpf.sublist ((List.sublist_append_right _ _).append (newLeaves_filter_sublist bs _ epoch)))
      ti1 (hgk true)
  have hperm : (oleaves oL ++ oleaves oR).Perm ((oleaves (ch false) ++ oleaves (ch true)) ++ newLeaves bs epoch) := by
    have hsplit : (newLeaves (bs.filter (goes p false)) epoch ++ newLeaves (bs.filter (goes p true)) epoch).Perm
        (newLeaves bs epoch) := by
      unfold newLeaves
      rw [← List.map_append]
      exact (filter_goes_perm (fun b hb' => ⟨(hb.under b hb').1, hstrict b hb'⟩)).map _
    refine (perm1.append perm2).trans ?_
    simp only [List.append_assoc]
    exact List.Perm.append_left _ ((List.perm_append_comm_assoc _ _ _).trans (List.Perm.append_left _ hsplit))
  -- the epoch fields: there is a new leaf below the node
  have hnew : (⟨b0.1, b0.2, epoch⟩ : Leaf) ∈ oleaves oL ++ oleaves oR :=
    hperm.mem_iff.2 (List.mem_append_right _ (List.mem_map_of_mem hb0))
  have hmax : oMax oL oR = epoch := by
    refine oMax_eq oL oR epoch (fun lf h => ?_) _ hnew rfl
    rcases List.mem_append.1 h with h | h
    · exact ((st2.sub false).leafok lf h).2.1
    · exact ((st2.sub true).leafok lf h).2.1
  have hlast : cur2.lastEpoch = epoch := st2.last.elim id (fun e => e.trans hmax)
  have hmin : cur2.minDescEpoch = oMin oL oR := by
    refine st2.min.elim id (fun h => ?_)
    have h1 : oL = none := h.2.1
    have h2 : oR = none := h.2.2
    simp [h1, h2, oleaves] at hnew
  have hrep : ∀ d t, upd (upd ch false oL) true oR d = some t → Rep c m s2 t ∧ maxEp t ≤ cur2.lastEpoch := by
    intro d t ht
    obtain ⟨hr, _, _, hl⟩ := st2.sub d t ht
    exact ⟨hr, hlast ▸ maxEp_le t epoch (fun lf h => (hl lf h).2.1)⟩
  have hup := updateHash_spec c m s2 cur2 (by rw [st2.type]; exact hty) _ st2.child hrep
  refine ⟨s2, { cur2 with hash := kidsHash c m oL oR }, num2, upd (upd ch false oL) true oR, ?_,
    ⟨st2.label, st2.type, st2.child, st2.last, st2.min, st2.sub⟩, rfl, hlast, hmax, hmin, hperm, ?_, ti2,
    (chg1.mono (fun q h => .inl h)).trans (chg2.mono (fun q h => .inr h)), ?_⟩
  · unfold phase23
    simp only [Direction.ofBit] at e1 e2
    rw [hst.label, e1]
    simp only
    rw [e2]
    simp only
    rw [hup]
    rfl
  · intro d hd
    cases d
    · exact none1 hd
    · exact none2 hd
  · intro d q h
    cases d
    · exact old1 q h
    · exact old2 q h

/-- Phases 2 and 3 at an interior node that ends up with two children: the result is the root node of a tree -/
theorem interior_spec {p : BitStr} {s : NodeStore} {cur : TreeNode} {ch : Bool → Option CTree}
    (hst : St c m epoch p .interior s cur ch)
    (hfuel : 257 ≤ fuel + (p.length + 1)) (isNew : Bool) (num : Nat)
    {set : ElementSet Dig} {bs : List (BitStr × Dig)} (hb : Batch set bs p) (hne : bs ≠ [])
    (hstrict : ∀ b ∈ bs, p.length < b.1.length)
    (hpf : ((oleaves (ch false) ++ oleaves (ch true)) ++ newLeaves bs epoch).Pairwise Incomp)
    (hti : I s) (hgk : ∀ d, GK K (p ++ [d]) (ch d))
    (hboth : ∀ d, ch d = none → bs.filter (goes p d) ≠ []) :
    ∃ s' n num' t', phase23 c m (insertRec c m epoch fuel) s cur isNew num set = .ok (s', n, isNew, num') ∧
      NodeIs c m t' n ∧ RepKids c m s' t' ∧ t'.WF ∧ t'.lbl = p ∧
      t'.leaves.Perm ((oleaves (ch false) ++ oleaves (ch true)) ++ newLeaves bs epoch) ∧ I s' ∧
      Chg s s' (fun q => q ∈ lbls t') ∧ ∀ d, ∀ q ∈ olbls (ch d), q ∈ lbls t' := by
  obtain ⟨s', cur', num', ch', hrun, hst', hhash, hlast, hmax, hmin, hperm, hnone, hti', hchg, hold⟩ :=
    finish c m epoch fuel hep hI hspec hst (by decide) hfuel isNew num hb hne hstrict hpf hti hgk
  have hsome : ∀ d, ∃ x, ch' d = some x := fun d => by
    cases h : ch' d with
    | none => exact absurd (hnone d h).2 (hboth d (hnone d h).1)
    | some x => exact ⟨x, rfl⟩
  obtain ⟨L, hL⟩ := hsome false
  obtain ⟨R, hR⟩ := hsome true
  obtain ⟨kl1, kl2, kl3, _⟩ := hst'.sub false L hL
  obtain ⟨kr1, kr2, kr3, _⟩ := hst'.sub true R hR
  rw [hL, hR] at hhash hmax hmin hperm hchg
  refine ⟨s', cur', num', .node p L R, hrun,
    ⟨hst'.label, hst'.type, (hst'.child false).trans (congrArg olbl hL), (hst'.child true).trans (congrArg olbl hR),
      hhash, hlast.trans hmax.symm, hmin⟩,
    ⟨kl1, kr1⟩, ⟨kl3, kr3, kl2, kr2⟩, rfl, hperm, hti',
    hchg.mono (fun q h => List.mem_cons_of_mem _ (List.mem_append.2 h)), fun d q h => ?_⟩
  have := hold d q h
  cases d
  · rw [hL] at this
    exact List.mem_cons_of_mem _ (List.mem_append_left _ this)
  · rw [hR] at this
    exact List.mem_cons_of_mem _ (List.mem_append_right _ this)

end

end Akd.Ins
