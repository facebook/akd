/-
Bit strings (`commonPrefix`, `lex`) and the label operations that are specified through them
(`cmp`, `getPrefix`, `lcp`, `prefixOrdering`).
-/
import AkdModel.Lemmas.LabelBytes
namespace Akd

theorem List.induction₂ {α} {motive : (as bs : List α) → as.length = bs.length → Prop}
    (nil : motive [] [] rfl)
    (cons : ∀ a as b bs (h : as.length = bs.length), motive as bs h →
      motive (a :: as) (b :: bs) (by simp [h])) :
    ∀ as bs h, motive as bs h
  | [], [], _ => nil
  | a :: as, b :: bs, h => cons a as b bs _ (List.induction₂ nil cons as bs (by simpa using h))

namespace BitStr

theorem prefix_commonPrefix_iff (z a b : BitStr) :
    z <+: commonPrefix a b ↔ z <+: a ∧ z <+: b := by
  induction a generalizing z b with
  | nil => simp +contextual [commonPrefix]
  | cons x xs ih =>
    cases b with
    | nil => simp +contextual [commonPrefix]
    | cons y ys =>
      cases z with
      | nil => simp
      | cons c z =>
        by_cases h : x = y
        · subst h
          simp only [commonPrefix, if_true, List.cons_prefix_cons, ih]
          exact ⟨fun ⟨h1, h2, h3⟩ => ⟨⟨h1, h2⟩, h1, h3⟩, fun ⟨⟨h1, h2⟩, _, h3⟩ => ⟨h1, h2, h3⟩⟩
        · simp only [commonPrefix, if_neg h, List.cons_prefix_cons, List.prefix_nil, reduceCtorEq,
            false_iff]
          rintro ⟨⟨rfl, _⟩, rfl, _⟩
          exact h rfl

theorem commonPrefix_prefix_left (a b : BitStr) : commonPrefix a b <+: a :=
  ((prefix_commonPrefix_iff _ a b).1 (List.prefix_refl _)).1

theorem commonPrefix_prefix_right (a b : BitStr) : commonPrefix a b <+: b :=
  ((prefix_commonPrefix_iff _ a b).1 (List.prefix_refl _)).2

theorem prefix_commonPrefix (z a b : BitStr) (h1 : z <+: a) (h2 : z <+: b) :
    z <+: commonPrefix a b :=
  (prefix_commonPrefix_iff z a b).2 ⟨h1, h2⟩

theorem eq_of_prefix_iff {p q : List Bool} (h : ∀ z : List Bool, z <+: p ↔ z <+: q) : p = q :=
  ((h p).mp (List.prefix_refl p)).eq_of_length_le ((h q).mpr (List.prefix_refl q)).length_le

theorem commonPrefix_self (a : BitStr) : commonPrefix a a = a := by
  apply eq_of_prefix_iff; intro z; simp [prefix_commonPrefix_iff]

/-- big-endian value of a bit string -/
def toNat : BitStr → Nat
  | [] => 0
  | b :: bs => (if b then 2 ^ bs.length else 0) + toNat bs

theorem toNat_lt (bs : BitStr) : toNat bs < 2 ^ bs.length := by
  induction bs with
  | nil => simp [toNat]
  | cons b bs ih =>
    simp only [toNat, List.length_cons, Nat.pow_succ]
    split <;> omega

theorem toNat_testBit (x n : Nat) :
    toNat ((List.range n).map fun j => x.testBit (n - 1 - j)) = x % 2 ^ n := by
  induction n with
  | zero => simp [toNat, Nat.mod_one]
  | succ n ih =>
    have e : (fun j => x.testBit (n + 1 - 1 - j)) ∘ Nat.succ = fun j => x.testBit (n - 1 - j) :=
      funext fun j => congrArg x.testBit (by simp; omega)
    rw [List.range_succ_eq_map, List.map_cons, List.map_map, e, toNat, ih, Nat.mod_pow_succ,
      ← Nat.toNat_testBit, Nat.add_comm]
    cases h : x.testBit n <;> simp [h]

theorem lex_eq_compare (as bs : BitStr) (h : as.length = bs.length) :
    lex as bs = compare (toNat as) (toNat bs) := by
  induction as, bs, h using List.induction₂ with
  | nil => rfl
  | cons a as b bs hl ih =>
    have h1 := toNat_lt as
    have h2 := toNat_lt bs
    rw [hl] at h1
    -- the tails are below `2 ^ length`, so the leading bits decide unless they are equal
    cases a <;> cases b <;> simp only [lex, toNat, hl, ih, ↓reduceIte, Bool.false_eq_true,
      reduceCtorEq, Nat.zero_add]
    · exact (Nat.compare_eq_lt.2 (by omega)).symm
    · exact (Nat.compare_eq_gt.2 (by omega)).symm
    · simp only [Nat.compare_eq_ite_lt, Nat.add_lt_add_iff_left]

theorem lex_eq_iff (as bs : BitStr) (h : as.length = bs.length) : lex as bs = .eq ↔ as = bs := by
  induction as, bs, h using List.induction₂ with
  | nil => simp [lex]
  | cons a as b bs hl ih =>
    simp only [lex]
    by_cases hab : a = b
    · subst hab; simp [ih]
    · simp only [hab, ↓reduceIte, List.cons.injEq, false_and, iff_false]
      split <;> simp

theorem lex_append (a1 b1 a2 b2 : BitStr) (h : a1.length = b1.length) :
    lex (a1 ++ a2) (b1 ++ b2) = (lex a1 b1).then (lex a2 b2) := by
  induction a1, b1, h using List.induction₂ with
  | nil => simp [lex]
  | cons a as b bs hl ih =>
    simp only [List.cons_append, lex]
    by_cases hab : a = b
    · simp [hab, ih]
    · simp only [hab, ↓reduceIte]
      split <;> rfl

theorem lex_take_ne_gt (a b : BitStr) (m : Nat) (h : a.length = b.length) (hle : lex a b ≠ .gt) :
    lex (a.take m) (b.take m) ≠ .gt := by
  intro hgt
  have := lex_append (a.take m) (b.take m) (a.drop m) (b.drop m) (by simp [h])
  rw [List.take_append_drop, List.take_append_drop, hgt] at this
  exact hle this

end BitStr

def bits8 (x : UInt8) : List Bool := (List.range 8).map (byteBit x)

theorem bits8_length (x : UInt8) : (bits8 x).length = 8 := by simp [bits8]

theorem toNat_bits8 (x : UInt8) : BitStr.toNat (bits8 x) = x.toNat := by
  have := BitStr.toNat_testBit x.toNat 8
  rwa [Nat.mod_eq_of_lt x.toNat_lt] at this

theorem lex_bits8 (x y : UInt8) :
    BitStr.lex (bits8 x) (bits8 y) = if x < y then .lt else if y < x then .gt else .eq := by
  rw [BitStr.lex_eq_compare _ _ (by simp [bits8_length]), toNat_bits8, toNat_bits8,
    Nat.compare_eq_ite_lt]
  simp only [UInt8.lt_iff_toNat_lt]

theorem cmpBytes_eq_lex (xs ys : List UInt8) (h : xs.length = ys.length) :
    NodeLabel.cmpBytes xs ys = BitStr.lex (xs.flatMap bits8) (ys.flatMap bits8) := by
  induction xs, ys, h using List.induction₂ with
  | nil => rfl
  | cons x xs y ys hl ih =>
    simp only [NodeLabel.cmpBytes, List.flatMap_cons]
    rw [BitStr.lex_append _ _ _ _ (by simp [bits8_length]), lex_bits8, ih]
    split
    · rfl
    · split <;> rfl

theorem getElem?_flatMap_bits8 (bs : List UInt8) (i : Nat) :
    (bs.flatMap bits8)[i]? = (bs[i / 8]?).map (fun x => byteBit x (i % 8)) := by
  induction bs generalizing i with
  | nil => simp
  | cons b bs ih =>
    rw [List.flatMap_cons]
    by_cases hi : i < 8
    · rw [List.getElem?_append_left (by simp [bits8_length, hi])]
      have : i / 8 = 0 := by omega
      have h2 : i % 8 = i := by omega
      simp [this, h2, bits8, hi]
    · rw [List.getElem?_append_right (by simp [bits8_length]; omega), bits8_length, ih]
      have : i / 8 = (i - 8) / 8 + 1 := by omega
      have h2 : (i - 8) % 8 = i % 8 := by omega
      simp [this, h2]

namespace NodeLabel

theorem bits256_eq_flatMap (l : NodeLabel) : l.bits256 = l.val.toList.flatMap bits8 := by
  apply List.ext_getElem?
  intro i
  rw [getElem?_flatMap_bits8]
  by_cases hi : i < 256
  · rw [List.getElem?_eq_getElem (by simp [bits256_length, hi]), bits256_getElem]
    have : i / 8 < 32 := by omega
    simp [bitB, hi, this]
  · rw [List.getElem?_eq_none (by simp [bits256_length]; omega)]
    have : ¬ i / 8 < 32 := by omega
    simp [this]

theorem cmpBytes_val (a b : NodeLabel) :
    cmpBytes a.val.toList b.val.toList = BitStr.lex a.bits256 b.bits256 := by
  rw [bits256_eq_flatMap, bits256_eq_flatMap, cmpBytes_eq_lex _ _ (by simp)]

theorem cmp_eq (a b : NodeLabel) :
    NodeLabel.cmp a b = (compare a.len b.len).then (BitStr.lex a.bits256 b.bits256) := by
  rw [NodeLabel.cmp, cmpBytes_val, Nat.compare_eq_ite_lt]
  split
  · rfl
  · split <;> rfl

theorem getPrefix_of_ge (a : NodeLabel) (n : Nat) (hn : 256 ≤ n) : a.getPrefix n = a := by
  simp [getPrefix, hn]

theorem bits_getPrefix_lt (a : NodeLabel) (n : Nat) (hn : n < 256) :
    (a.getPrefix n).bits = a.bits256.take n := by
  rw [bits, getPrefix_len a n hn, bits256_getPrefix a n hn,
    List.take_append_of_le_length (by simp [bits256_length]; omega), List.take_take, Nat.min_self]

theorem getPrefix_normalised (a : NodeLabel) (n : Nat) (hn : n < 256) : (a.getPrefix n).Normalised := by
  rw [Normalised, bits_getPrefix_lt a n hn, bits256_getPrefix a n hn, getPrefix_len a n hn]

theorem bits_getPrefix_le (a : NodeLabel) (n : Nat) (hn : n ≤ a.len) (ha : a.len ≤ 256) :
    (a.getPrefix n).bits = a.bits.take n := by
  by_cases h : n < 256
  · rw [bits_getPrefix_lt a n h, bits, List.take_take, Nat.min_eq_left hn]
  · rw [getPrefix_of_ge a n (by omega), List.take_of_length_le (by rw [bits_length]; omega)]

theorem getPrefix_eq_iff (a b : NodeLabel) (n : Nat) (hn : n < 256) :
    a.getPrefix n = b.getPrefix n ↔ ∀ i, i < n → bitB a.val i = bitB b.val i := by
  constructor
  · intro h i hi
    simpa [bitB_getPrefix _ _ _ hn, hi] using congrArg (fun l => bitB l.val i) h
  · intro h
    have h1 := (getPrefix_len a n hn).trans (getPrefix_len b n hn).symm
    have h2 : (a.getPrefix n).val = (b.getPrefix n).val := by
      apply val_eq_of_bitB
      intro i _
      rw [bitB_getPrefix _ _ _ hn, bitB_getPrefix _ _ _ hn]
      split
      · exact h i ‹_›
      · rfl
    generalize a.getPrefix n = x at *
    generalize b.getPrefix n = y at *
    cases x; cases y; simp_all

theorem lcpLoop_spec (a b : NodeLabel) (s fuel k : Nat) (hk : k ≤ s) (hf : s ≤ k + fuel) :
    lcpLoop a b s fuel k ≤ s ∧
    (∀ i, k ≤ i → i < lcpLoop a b s fuel k → a.bitAt i = b.bitAt i) ∧
    (lcpLoop a b s fuel k = s ∨ a.bitAt (lcpLoop a b s fuel k) ≠ b.bitAt (lcpLoop a b s fuel k)) := by
  induction fuel generalizing k with
  | zero =>
    have : lcpLoop a b s 0 k = s := by simp only [lcpLoop]; omega
    exact ⟨by omega, fun i h1 h2 => by omega, Or.inl this⟩
  | succ fuel ih =>
    simp only [lcpLoop]
    split
    · rename_i hc
      simp only [Bool.and_eq_true, decide_eq_true_eq, beq_iff_eq] at hc
      obtain ⟨h2, h3, h4⟩ := ih (k + 1) (by omega) (by omega)
      refine ⟨h2, fun i hi1 hi2 => ?_, h4⟩
      by_cases hik : i = k
      · subst hik; exact hc.2
      · exact h3 i (by omega) hi2
    · rename_i hc
      simp only [Bool.and_eq_true, decide_eq_true_eq, beq_iff_eq, not_and] at hc
      refine ⟨hk, fun i h1 h2 => by omega, ?_⟩
      by_cases hks : k < s
      · exact Or.inr (hc hks)
      · exact Or.inl (by omega)

/-- longest common prefix = longest common prefix of the bit strings, and the result is normalised
(unless it is a full 256-bit operand returned as is) -/
theorem lcp_spec' (e a b : NodeLabel) (hae : a ≠ e) (hbe : b ≠ e)
    (ha : a.len ≤ 256) (hb : b.len ≤ 256) :
    (lcp e a b).bits = BitStr.commonPrefix a.bits b.bits ∧
    (lcp e a b).len = (BitStr.commonPrefix a.bits b.bits).length ∧
    ((lcp e a b).len < 256 → (lcp e a b).Normalised) := by
  have hla : a.bits.length = a.len := by rw [bits_length]; omega
  -- the loop returns `r`: the labels agree below `r`, and differ at `r` unless one of them ends there
  obtain ⟨r, hr, hra, hrb, heq, hne⟩ : ∃ r, lcp e a b = a.getPrefix r ∧ r ≤ a.len ∧ r ≤ b.len ∧
      (∀ i, i < r → bitB a.val i = bitB b.val i) ∧
      (r < a.len → r < b.len → bitB a.val r ≠ bitB b.val r) := by
    obtain ⟨s, ⟨hsa, hsb, hs⟩, hr⟩ : ∃ s, (s ≤ a.len ∧ s ≤ b.len ∧ (s = a.len ∨ s = b.len)) ∧
        lcp e a b = a.getPrefix (lcpLoop a b s s 0) :=
      ⟨if a.len < b.len then a.len else b.len, by split <;> omega, by simp [lcp, hae, hbe]⟩
    obtain ⟨h2, h3, h4⟩ := lcpLoop_spec a b s s 0 (Nat.zero_le _) (Nat.le_add_left _ _)
    refine ⟨lcpLoop a b s s 0, hr, Nat.le_trans h2 hsa, Nat.le_trans h2 hsb, fun i hi => ?_,
      fun h1 h2 heq => ?_⟩
    · exact (bitAt_eq_iff a b i (by omega) (by omega) (by omega)).1 (h3 i (Nat.zero_le _) hi)
    · exact h4.resolve_left (by omega) ((bitAt_eq_iff a b _ h1 h2 (by omega)).2 heq)
  -- so the first `r` bits of `a` are the greatest common prefix
  have hcp : BitStr.commonPrefix a.bits b.bits = a.bits.take r := by
    apply BitStr.eq_of_prefix_iff
    intro z
    rw [BitStr.prefix_commonPrefix_iff, List.prefix_take_iff]
    refine and_congr_right fun hza => ?_
    rw [prefix_bits_iff _ _ hb]
    obtain ⟨hza1, hza2⟩ := (prefix_bits_iff _ _ ha).1 hza
    constructor
    · rintro ⟨hzb1, hzb2⟩
      apply Nat.le_of_not_lt
      intro hlt
      exact hne (by omega) (by omega) (by rw [← hza2 r hlt, ← hzb2 r hlt])
    · exact fun hzr => ⟨by omega, fun i hi => by rw [hza2 i hi, heq i (by omega)]⟩
  rw [hr, hcp, List.length_take, hla, Nat.min_eq_left hra]
  refine ⟨bits_getPrefix_le a r hra ha, ?_, ?_⟩
  all_goals by_cases h : r < 256
  · exact getPrefix_len a r h
  · rw [getPrefix_of_ge a r (by omega)]; omega
  · exact fun _ => getPrefix_normalised a r h
  · rw [getPrefix_of_ge a r (by omega)]; omega

theorem prefixOrdering_iff (a b : NodeLabel) (hb : b.len ≤ 256) (x : Bool) :
    a.prefixOrdering b = (if x then .withOne else .withZero) ↔
      a.len < b.len ∧ (∀ i, i < a.len → bitB a.val i = bitB b.val i) ∧ bitB b.val a.len = x := by
  unfold prefixOrdering
  by_cases h1 : a.len ≥ b.len
  · rw [if_pos h1]
    cases x <;> simp <;> omega
  · have hlt : a.len < b.len := by omega
    simp only [if_neg h1, bitAt_eq b a.len hlt (by omega), ne_eq, eq_comm (a := b.getPrefix a.len),
      getPrefix_eq_iff a b a.len (by omega), hlt, true_and]
    by_cases h2 : ∀ i, i < a.len → bitB a.val i = bitB b.val i
    · rw [if_neg (fun h => h h2), and_iff_right h2]
      cases bitB b.val a.len <;> cases x <;> simp
    · rw [if_pos h2, iff_false_right (fun h => h2 h.1)]
      cases x <;> simp

theorem snoc_prefix_bits_iff (a b : NodeLabel) (ha : a.len ≤ 256) (hb : b.len ≤ 256) (x : Bool) :
    (a.bits ++ [x]) <+: b.bits ↔
      a.len < b.len ∧ (∀ i, i < a.len → bitB a.val i = bitB b.val i) ∧ bitB b.val a.len = x := by
  have hlen : a.bits.length = a.len := by rw [bits_length]; omega
  simp only [prefix_bits_iff _ _ hb, List.length_append, List.length_singleton, hlen,
    Nat.forall_lt_succ_right', List.getElem_append, bits_getElem]
  simp +contextual [Nat.succ_le_iff, eq_comm]

end NodeLabel
end Akd
