/-
The labels of the nodes of a tree (`lbls`) and of a root (`RootK`), and the bookkeeping "the labels that existed before
and lie below this position are labels of the sub-tree found there" (`GK`): what the induction over `insertRec`
(`Lemmas/InsertMain.lean`) needs to say which records an insertion creates and which it rewrites.
-/
import AkdModel.Lemmas.InsertRep
namespace Akd.Ins
open Akd NodeLabel

def lbls : CTree → List BitStr
  | .leaf q _ _ => [q]
  | .node q l r => q :: (lbls l ++ lbls r)

def olbls (o : Option CTree) : List BitStr := (o.map lbls).getD []

theorem lbl_mem_lbls (t : CTree) : t.lbl ∈ lbls t := by
  cases t <;> simp [lbls, CTree.lbl]

theorem lbls_prefix : ∀ {t : CTree}, t.WF → ∀ q ∈ lbls t, t.lbl <+: q
  | .leaf _ _ _, _, q, h => by
    simp only [lbls, List.mem_singleton] at h
    subst h
    exact List.prefix_refl _
  | .node p l r, hwf, q, h => by
    obtain ⟨pl, pr, wl, wr⟩ := hwf
    simp only [lbls, List.mem_cons, List.mem_append] at h
    rcases h with rfl | h | h
    · exact List.prefix_refl _
    · exact (Canon.prefix_of_snoc_prefix pl).trans (lbls_prefix wl q h)
    · exact (Canon.prefix_of_snoc_prefix pr).trans (lbls_prefix wr q h)

theorem lbls_length_le : ∀ {t : CTree}, t.WF → (∀ lf ∈ t.leaves, lf.lbl.length ≤ 256) →
    ∀ q ∈ lbls t, q.length ≤ 256
  | .leaf p v e, _, hlen, q, h => by
    simp only [lbls, List.mem_singleton] at h
    subst h
    exact hlen ⟨q, v, e⟩ (by simp [CTree.leaves])
  | .node p l r, hwf, hlen, q, h => by
    have hp := Canon.Tree.lbl_length_le hwf hlen
    obtain ⟨pl, pr, wl, wr⟩ := hwf
    simp only [lbls, List.mem_cons, List.mem_append] at h
    rcases h with rfl | h | h
    · exact hp
    · exact lbls_length_le wl (fun lf h => hlen lf (by simp [CTree.leaves, h])) q h
    · exact lbls_length_le wr (fun lf h => hlen lf (by simp [CTree.leaves, h])) q h

/-- the pre-existing labels below the position `pre` are the labels of the sub-tree found there -/
def GK (K : BitStr → Prop) (pre : BitStr) (ot : Option CTree) : Prop :=
  ∀ q, K q → pre <+: q → q ∈ olbls ot

theorem gk_none_fresh {K : BitStr → Prop} {pre q : BitStr} (h : GK K pre none) (hp : pre <+: q) : ¬ K q := by
  intro hq
  have := h q hq hp
  simp [olbls] at this

theorem gk_none_mono {K : BitStr → Prop} {pre pre' : BitStr} (h : GK K pre none) (hp : pre <+: pre') :
    GK K pre' none := fun q hq hpq => h q hq (hp.trans hpq)

theorem gk_children {K : BitStr → Prop} {pre p : BitStr} {l r : CTree} (h : GK K pre (some (.node p l r)))
    (hwf : (CTree.node p l r).WF) (hpre : pre <+: p) (d : Bool) :
    GK K (p ++ [d]) (some (if d then r else l)) := by
  obtain ⟨pl, pr, wl, wr⟩ := hwf
  intro q hq hpq
  have hm := h q hq (hpre.trans (Canon.prefix_of_snoc_prefix hpq))
  simp only [olbls, Option.map_some, Option.getD_some, lbls, List.mem_cons, List.mem_append] at hm ⊢
  rcases hm with rfl | hm | hm
  · have := hpq.length_le
    simp at this
    omega
  · have hd : d = false := Canon.snoc_prefix_inj hpq (pl.trans (lbls_prefix wl q hm))
    subst hd
    exact hm
  · have hd : d = true := Canon.snoc_prefix_inj hpq (pr.trans (lbls_prefix wr q hm))
    subst hd
    exact hm

/-- a new node `p` strictly above an existing sub-tree `t` -/
theorem gk_above {K : BitStr → Prop} {pre p : BitStr} {t : CTree} (h : GK K pre (some t)) (hwf : t.WF)
    (hpre : pre <+: p) {d0 : Bool} (hd0 : (p ++ [d0]) <+: t.lbl) :
    ¬ K p ∧ ∀ d, GK K (p ++ [d]) (if d = d0 then some t else none) := by
  refine ⟨fun hq => ?_, fun d q hq hpq => ?_⟩
  · have hm := h p hq hpre
    have := (hd0.trans (lbls_prefix hwf p (by simpa [olbls] using hm))).length_le
    simp at this
    omega
  · have hm := h q hq (hpre.trans (Canon.prefix_of_snoc_prefix hpq))
    have hm' : q ∈ lbls t := by simpa [olbls] using hm
    have hd : d = d0 := Canon.snoc_prefix_inj hpq (hd0.trans (lbls_prefix hwf q hm'))
    rw [if_pos hd]
    exact hm

/-- the labels of the nodes of a root: `[]` and the labels of its sub-trees -/
def RootK (t : CRoot) (q : BitStr) : Prop := q = [] ∨ q ∈ olbls t.l ++ olbls t.r

theorem olbls_prefix {o : Option CTree} {b : Bool} (ho : ∀ a, o = some a → [b] <+: a.lbl ∧ a.WF) :
    ∀ q ∈ olbls o, [b] <+: q := by
  intro q hq
  cases o with
  | none => simp [olbls] at hq
  | some a => exact (ho a rfl).1.trans (lbls_prefix (ho a rfl).2 q hq)

theorem rootK_length {t : CRoot} (hwf : t.WF) (hlen : ∀ lf ∈ t.leaves, lf.lbl.length ≤ 256) :
    ∀ q, RootK t q → q.length ≤ 256 := by
  have hside : ∀ o : Option CTree, (∀ a, o = some a → a.WF ∧ ∀ lf ∈ a.leaves, lf ∈ t.leaves) →
      ∀ q ∈ olbls o, q.length ≤ 256 := by
    intro o ho q hq
    cases o with
    | none => simp [olbls] at hq
    | some a => exact lbls_length_le (ho a rfl).1 (fun lf h => hlen lf ((ho a rfl).2 lf h)) q hq
  rintro q (rfl | hq)
  · exact Nat.zero_le _
  · rcases List.mem_append.1 hq with h | h
    · exact hside t.l (fun a ha => ⟨(hwf.1 a ha).2, fun lf h => by simp [CRoot.leaves, ha, h]⟩) q h
    · exact hside t.r (fun a ha => ⟨(hwf.2 a ha).2, fun lf h => by simp [CRoot.leaves, ha, h]⟩) q h

theorem rootK_gk {t : CRoot} (hwf : t.WF) (d : Bool) : GK (RootK t) [d] (if d then t.r else t.l) := by
  rintro q (rfl | hq) hpq
  · have := hpq.length_le
    simp at this
  -- a label below the other slot starts with the other bit
  · rcases List.mem_append.1 hq with h | h
    · cases Canon.snoc_prefix_inj (p := []) (olbls_prefix hwf.1 q h) hpq
      exact h
    · cases Canon.snoc_prefix_inj (p := []) (olbls_prefix hwf.2 q h) hpq
      exact h

end Akd.Ins
