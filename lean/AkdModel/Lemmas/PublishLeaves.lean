/-
The leaf set `Spec.leaves` of a version table: what one more version of a label adds to it, that it is
prefix-free with 256-bit labels (so that the canonical tree over it is well defined), which leaf sits at
which VRF label, and how it grows along a history.
-/
import AkdModel.Thm.C01b
import AkdModel.Lemmas.PublishTable
namespace Akd.Pub
open Akd Spec

/-- the fresh leaf of `v` and, if `vs` has a version `v.version + 1`, the stale leaf of `v` stamped with that
version's epoch -/
def verLeaves (c : Cfg) (key : Dig) (vrf : VrfTable) (u : Bytes) (vs : List Ver) (v : Ver) : List Leaf :=
  (match vrf.get? ⟨u, true, v.version⟩ with
    | some l => [(⟨l.bits, c.commit v.value (c.nonce key l v.version v.value), v.epoch⟩ : Leaf)]
    | none => []) ++
  (match vs.find? (fun w => w.version = v.version + 1), vrf.get? ⟨u, false, v.version⟩ with
    | some nxt, some l => [(⟨l.bits, c.staleValue, nxt.epoch⟩ : Leaf)]
    | _, _ => [])

def entryLeaves (c : Cfg) (key : Dig) (vrf : VrfTable) (x : Bytes × List Ver) : List Leaf :=
  x.2.flatMap (verLeaves c key vrf x.1 x.2)

theorem leaves_eq (c : Cfg) (key : Dig) (vrf : VrfTable) (t : Table) :
    Spec.leaves c key vrf t = t.flatMap (entryLeaves c key vrf) := rfl

theorem mem_leaves_iff {c : Cfg} {key : Dig} {vrf : VrfTable} {t : Table} {lf : Leaf} :
    lf ∈ Spec.leaves c key vrf t ↔ ∃ x ∈ t, ∃ v ∈ x.2, lf ∈ verLeaves c key vrf x.1 x.2 v := by
  simp only [leaves_eq, entryLeaves, List.mem_flatMap]

theorem mem_verLeaves {c : Cfg} {key : Dig} {vrf : VrfTable} {u : Bytes} {vs : List Ver} {v : Ver} {lf : Leaf}
    (h : lf ∈ verLeaves c key vrf u vs v) :
    ∃ f l, vrf.get? ⟨u, f, v.version⟩ = some l ∧ lf.lbl = l.bits ∧
      ((f = true ∧ lf = ⟨l.bits, c.commit v.value (c.nonce key l v.version v.value), v.epoch⟩) ∨
       (f = false ∧ ∃ nxt, vs.find? (fun w => w.version = v.version + 1) = some nxt ∧
          lf = ⟨l.bits, c.staleValue, nxt.epoch⟩)) := by
  simp only [verLeaves, List.mem_append] at h
  rcases h with h | h
  · cases h1 : vrf.get? ⟨u, true, v.version⟩ with
    | none => simp [h1] at h
    | some l => simp [h1] at h; exact ⟨true, l, h1, by rw [h], .inl ⟨rfl, h⟩⟩
  · cases h1 : vs.find? (fun w => w.version = v.version + 1) with
    | none => simp [h1] at h
    | some nxt =>
      cases h2 : vrf.get? ⟨u, false, v.version⟩ with
      | none => simp [h1, h2] at h
      | some l => simp [h1, h2] at h; exact ⟨false, l, h2, by rw [h], .inr ⟨rfl, nxt, rfl, h⟩⟩

/-- the fresh leaf of the new version `n`, at epoch `e` -/
def freshNew (c : Cfg) (key : Dig) (vrf : VrfTable) (u : Bytes) (n : Nat) (v : Bytes) (e : Nat) : List Leaf :=
  match vrf.get? ⟨u, true, n⟩ with
  | some l => [⟨l.bits, c.commit v (c.nonce key l n v), e⟩]
  | none => []

/-- the stale leaf of the superseded version `n` (none if `n = 0`), at epoch `e` -/
def staleNew (c : Cfg) (vrf : VrfTable) (u : Bytes) (n : Nat) (e : Nat) : List Leaf :=
  if n = 0 then [] else
  match vrf.get? ⟨u, false, n⟩ with
  | some l => [⟨l.bits, c.staleValue, e⟩]
  | none => []

/-- what a new version of `u` (after `n` existing ones) adds to the leaf set -/
def delta (c : Cfg) (key : Dig) (vrf : VrfTable) (u : Bytes) (n : Nat) (v : Bytes) (e : Nat) : List Leaf :=
  staleNew c vrf u n e ++ freshNew c key vrf u (n + 1) v e

theorem delta_ep (c : Cfg) (key : Dig) (vrf : VrfTable) (u : Bytes) (n : Nat) (v : Bytes) (e : Nat) :
    ∀ lf ∈ delta c key vrf u n v e, lf.ep = e := by
  intro lf h
  rcases List.mem_append.1 h with h | h
  · unfold staleNew at h
    split at h
    · cases h
    · split at h
      · rw [List.mem_singleton.1 h]
      · cases h
  · unfold freshNew at h
    split at h
    · rw [List.mem_singleton.1 h]
    · cases h

theorem find_version_none {vs : List Ver} (h : VersOK vs) {k : Nat} (hk : vs.length < k) :
    vs.find? (fun w => w.version = k) = none := by
  rw [List.find?_eq_none]
  intro x hx
  have := (C06.VersionsOK.version_le h hx).2
  simp only [decide_eq_true_eq]; omega

theorem entryLeaves_snoc (c : Cfg) (key : Dig) (vrf : VrfTable) (u : Bytes) (vs : List Ver) (hv : VersOK vs)
    (v : Bytes) (e : Nat) :
    entryLeaves c key vrf (u, vs ++ [⟨vs.length + 1, v, e⟩]) =
      entryLeaves c key vrf (u, vs) ++ delta c key vrf u vs.length v e := by
  have hnew : verLeaves c key vrf u (vs ++ [⟨vs.length + 1, v, e⟩]) ⟨vs.length + 1, v, e⟩ =
      freshNew c key vrf u (vs.length + 1) v e := by
    have hf : (vs ++ [(⟨vs.length + 1, v, e⟩ : Ver)]).find? (fun w => w.version = vs.length + 1 + 1) = none := by
      rw [List.find?_append, find_version_none hv (by omega)]
      simp
    simp only [verLeaves, freshNew, hf]
    cases vrf.get? ⟨u, true, vs.length + 1⟩ <;> simp
  simp only [entryLeaves, List.flatMap_append, List.flatMap_cons, List.flatMap_nil, List.append_nil, hnew, delta]
  rcases List.eq_nil_or_concat vs with rfl | ⟨init, last, rfl⟩
  · simp [staleNew]
  · rw [List.concat_eq_append] at hv ⊢
    obtain ⟨hi, hl, _⟩ := versOK_concat hv
    have hlen : (init ++ [last]).length = last.version := by simp [hl]
    -- the earlier versions see the same successor
    have hinit : ∀ x ∈ init, verLeaves c key vrf u (init ++ [last] ++ [⟨(init ++ [last]).length + 1, v, e⟩]) x =
        verLeaves c key vrf u (init ++ [last]) x := by
      intro x hx
      have hxv := (C06.VersionsOK.version_le hi hx).2
      simp only [verLeaves]
      rw [List.find?_append (xs := init ++ [last])]
      have : [(⟨(init ++ [last]).length + 1, v, e⟩ : Ver)].find? (fun w => w.version = x.version + 1) = none := by
        rw [List.find?_singleton, if_neg (by simp only [decide_eq_true_eq]; omega)]
      rw [this, Option.or_none]
    -- the last one acquires its stale leaf
    have hlast : verLeaves c key vrf u (init ++ [last] ++ [⟨(init ++ [last]).length + 1, v, e⟩]) last =
        verLeaves c key vrf u (init ++ [last]) last ++ staleNew c vrf u (init ++ [last]).length e := by
      have h1 : (init ++ [last]).find? (fun w => w.version = last.version + 1) = none :=
        find_version_none hv (by omega)
      simp only [verLeaves]
      rw [List.find?_append (xs := init ++ [last]), h1]
      have h2 : [(⟨(init ++ [last]).length + 1, v, e⟩ : Ver)].find? (fun w => w.version = last.version + 1)
          = some ⟨(init ++ [last]).length + 1, v, e⟩ := by
        simp [hlen]
      rw [h2, Option.none_or]
      have hne : last.version ≠ 0 := by omega
      simp only [staleNew, hlen, if_neg hne]
      cases vrf.get? ⟨u, false, last.version⟩ <;> simp
    rw [List.flatMap_append (xs := init), List.flatMap_append (xs := init)]
    simp only [List.flatMap_cons, List.flatMap_nil, List.append_nil]
    simp only [List.flatMap_def]
    rw [List.map_congr_left hinit, hlast]
    simp only [List.append_assoc]

theorem leaves_put (c : Cfg) (key : Dig) (vrf : VrfTable) (t : Table) (u : Bytes) (vs' : List Ver) (D : List Leaf)
    (h : entryLeaves c key vrf (u, vs') = entryLeaves c key vrf (u, t.get u) ++ D) :
    (Spec.leaves c key vrf (t.put u vs')).Perm (Spec.leaves c key vrf t ++ D) := by
  simp only [leaves_eq]
  induction t with
  | nil =>
    simp only [Table.put, Table.get, List.flatMap_cons, List.flatMap_nil, List.append_nil, List.nil_append] at h ⊢
    rw [h]; simp [entryLeaves]
  | cons y rest ih =>
    obtain ⟨k, w⟩ := y
    simp only [Table.put, Table.get] at h ⊢
    by_cases hk : k = u
    · rw [if_pos hk] at h ⊢
      simp only [List.flatMap_cons]
      rw [h, hk, List.append_assoc, List.append_assoc]
      exact List.Perm.append_left _ List.perm_append_comm
    · rw [if_neg hk] at h ⊢
      simp only [List.flatMap_cons]
      rw [List.append_assoc]
      exact List.Perm.append_left _ (ih h)

theorem leaves_fold (c : Cfg) (key : Dig) (vrf : VrfTable) (e : Nat) : ∀ (ch : List (Bytes × Bytes)) (T : Table),
    (ch.map (·.1)).Nodup → (∀ x ∈ ch, VersOK (T.get x.1)) →
    (Spec.leaves c key vrf (ch.foldl (step e) T)).Perm
      (Spec.leaves c key vrf T ++ ch.flatMap (fun x => delta c key vrf x.1 (T.get x.1).length x.2 e))
  | [], T, _, _ => by simp
  | x :: ch, T, hnd, hv => by
    rw [List.map_cons, List.nodup_cons] at hnd
    -- the labels still to come are not touched by this step
    have hget : ∀ y ∈ ch, (step e T x).get y.1 = T.get y.1 := fun y hy => by
      rw [get_step, if_neg (fun h : x.1 = y.1 => hnd.1 (h ▸ List.mem_map_of_mem hy))]
    have ih := leaves_fold c key vrf e ch (step e T x) hnd.2 (fun y hy => by
      rw [hget y hy]; exact hv y (List.mem_cons_of_mem _ hy))
    rw [List.flatMap_def, List.map_congr_left (fun y hy => by rw [hget y hy]), ← List.flatMap_def] at ih
    rw [List.foldl_cons, List.flatMap_cons, ← List.append_assoc]
    exact ih.trans ((leaves_put c key vrf T x.1 _ _
      (entryLeaves_snoc c key vrf x.1 (T.get x.1) (hv x List.mem_cons_self) x.2 e)).append_right _)

theorem bits_inj_256 {l l' : NodeLabel} (h : l.len = 256) (h' : l'.len = 256) (e : l.bits = l'.bits) : l = l' := by
  rw [← Snd.ofBits_bits_256 l h, ← Snd.ofBits_bits_256 l' h', e]

section Vrf
variable {vrf : VrfTable} (hvrf : C06.VrfOK vrf)
include hvrf

theorem claim_eq {k k' : VrfClaim} {l l' : NodeLabel} (h1 : vrf.get? k = some l) (h2 : vrf.get? k' = some l')
    (e : l.bits = l'.bits) : k = k' ∧ l = l' := by
  have hl := bits_inj_256 (hvrf.len k l h1) (hvrf.len k' l' h2) e
  exact ⟨hvrf.inj k k' l h1 (hl ▸ h2), hl⟩

theorem incomp_of_claims {k k' : VrfClaim} {l l' : NodeLabel} {a b : Leaf}
    (h1 : vrf.get? k = some l) (h2 : vrf.get? k' = some l') (hne : k ≠ k')
    (ha : a.lbl = l.bits) (hb : b.lbl = l'.bits) : Canon.Incomp a b := by
  have hl := Snd.bits_length_256 l (hvrf.len k l h1)
  have hl' := Snd.bits_length_256 l' (hvrf.len k' l' h2)
  unfold Canon.Incomp
  rw [ha, hb]
  exact ⟨fun hp => hne (claim_eq hvrf h1 h2 (hp.eq_of_length (hl.trans hl'.symm))).1,
    fun hp => hne (claim_eq hvrf h1 h2 (hp.eq_of_length (hl'.trans hl.symm)).symm).1⟩

omit hvrf in
theorem versOK_pairwise_version {vs : List Ver} (h : VersOK vs) : vs.Pairwise (fun a b => a.version ≠ b.version) := by
  rw [List.pairwise_iff_getElem]
  intro i j hi hj hij
  rw [h.1 i hi, h.1 j hj]; omega

theorem pairwise_verLeaves (c : Cfg) (key : Dig) (u : Bytes) (vs : List Ver) (v : Ver) :
    (verLeaves c key vrf u vs v).Pairwise Canon.Incomp := by
  unfold verLeaves
  cases h1 : vrf.get? ⟨u, true, v.version⟩ with
  | none =>
    cases vs.find? (fun w => w.version = v.version + 1) <;> cases vrf.get? ⟨u, false, v.version⟩ <;> simp
  | some l =>
    cases vs.find? (fun w => w.version = v.version + 1) with
    | none => simp
    | some nxt =>
      cases h2 : vrf.get? ⟨u, false, v.version⟩ with
      | none => simp
      | some l' =>
        simp only [List.singleton_append, List.pairwise_cons, List.mem_singleton, forall_eq, List.not_mem_nil,
          false_imp_iff, implies_true, List.Pairwise.nil, and_true]
        exact incomp_of_claims hvrf h1 h2 (by simp) rfl rfl

theorem pairwise_entryLeaves (c : Cfg) (key : Dig) (u : Bytes) (vs : List Ver) (hv : VersOK vs) :
    (entryLeaves c key vrf (u, vs)).Pairwise Canon.Incomp := by
  unfold entryLeaves
  rw [List.pairwise_flatMap]
  refine ⟨fun v _ => pairwise_verLeaves hvrf c key u vs v, ?_⟩
  refine (versOK_pairwise_version hv).imp ?_
  intro v w hvw a ha b hb
  obtain ⟨f, l, h1, e1, _⟩ := mem_verLeaves ha
  obtain ⟨f', l', h2, e2, _⟩ := mem_verLeaves hb
  exact incomp_of_claims hvrf h1 h2 (by simp [hvw]) e1 e2

theorem prefixFree_leaves (c : Cfg) (key : Dig) (t : Table) (hk : t.Pairwise (fun a b => a.1 ≠ b.1))
    (hv : ∀ u, VersOK (t.get u)) : C01.PrefixFree (Spec.leaves c key vrf t) := by
  unfold C01.PrefixFree
  show (Spec.leaves c key vrf t).Pairwise Canon.Incomp
  rw [leaves_eq, List.pairwise_flatMap]
  refine ⟨fun x hx => ?_, ?_⟩
  · have := hv x.1
    rw [get_of_mem t hk x hx] at this
    exact pairwise_entryLeaves hvrf c key x.1 x.2 this
  · refine hk.imp ?_
    intro x y hxy a ha b hb
    simp only [entryLeaves, List.mem_flatMap] at ha hb
    obtain ⟨v, _, ha⟩ := ha
    obtain ⟨w, _, hb⟩ := hb
    obtain ⟨f, l, h1, e1, _⟩ := mem_verLeaves ha
    obtain ⟨f', l', h2, e2, _⟩ := mem_verLeaves hb
    exact incomp_of_claims hvrf h1 h2 (by simp [hxy]) e1 e2

theorem leaves_len (c : Cfg) (key : Dig) (t : Table) :
    ∀ lf ∈ Spec.leaves c key vrf t, lf.lbl.length = 256 := by
  intro lf h
  obtain ⟨x, _, v, _, h⟩ := mem_leaves_iff.1 h
  obtain ⟨f, l, h1, e1, _⟩ := mem_verLeaves h
  rw [e1, Snd.bits_length_256 l (hvrf.len _ _ h1)]

theorem leaves_lbl_ne_nil (c : Cfg) (key : Dig) (t : Table) : ∀ lf ∈ Spec.leaves c key vrf t, lf.lbl ≠ [] :=
  fun lf h e => by have := leaves_len hvrf c key t lf h; rw [e] at this; cases this

end Vrf

theorem leaves_ep (c : Cfg) (key : Dig) (vrf : VrfTable) (t : Table) (hk : t.Pairwise (fun a b => a.1 ≠ b.1))
    (lo hi : Nat) (he : ∀ u, ∀ v ∈ t.get u, lo ≤ v.epoch ∧ v.epoch ≤ hi) :
    ∀ lf ∈ Spec.leaves c key vrf t, lo ≤ lf.ep ∧ lf.ep ≤ hi := by
  intro lf h
  obtain ⟨x, hx, v, hv, h⟩ := mem_leaves_iff.1 h
  have hg := get_of_mem t hk x hx
  obtain ⟨_, l, _, _, ⟨_, rfl⟩ | ⟨_, nxt, hf, rfl⟩⟩ := mem_verLeaves h
  · exact he x.1 v (hg ▸ hv)
  · exact he x.1 nxt (hg ▸ List.mem_of_find?_eq_some hf)

theorem leafTree {vrf : VrfTable} (hv : C06.VrfOK vrf) (c : Cfg) (key : Dig) {T : Table} {E : Nat} (hT : TableOK T E) :
    (CRoot.ofLeaves (Spec.leaves c key vrf T)).WF ∧
    (CRoot.ofLeaves (Spec.leaves c key vrf T)).leaves.Perm (Spec.leaves c key vrf T) ∧
    ∀ lf ∈ (CRoot.ofLeaves (Spec.leaves c key vrf T)).leaves, lf.lbl.length = 256 ∧ 1 ≤ lf.ep ∧ lf.ep ≤ E := by
  have hlen := leaves_len hv c key T
  obtain ⟨hwf, hp⟩ := C01.ofLeaves_spec _ (prefixFree_leaves hv c key T hT.keys hT.vers)
    (leaves_lbl_ne_nil hv c key T)
  exact ⟨hwf, hp, fun lf hlf => ⟨hlen lf (hp.mem_iff.1 hlf),
    leaves_ep c key vrf T hT.keys 1 E hT.eps lf (hp.mem_iff.1 hlf)⟩⟩

/-- `ys` is any prefix-free rearrangement of `xs` and the new leaves; the first two parts are the side conditions
of `C01.batchInsert_refines` for this insertion -/
theorem ofLeaves_insert {xs ys : List Leaf} (els : List (BitStr × Dig)) (ep : Nat)
    (hpf : C01.PrefixFree ys) (hlen : ∀ y ∈ ys, y.lbl.length = 256)
    (hp : ys.Perm (xs ++ C01.newLeaves els ep)) :
    C01.PrefixFree ((CRoot.ofLeaves xs).leaves ++ C01.newLeaves els ep) ∧
    (∀ lf ∈ (CRoot.ofLeaves xs).leaves ++ C01.newLeaves els ep, 1 ≤ lf.lbl.length ∧ lf.lbl.length ≤ 256) ∧
    (C01.newLeaves els ep).foldl CRoot.insert1 (CRoot.ofLeaves xs) = CRoot.ofLeaves ys := by
  have hne : ∀ y ∈ ys, y.lbl ≠ [] := fun y hy h => by have := hlen y hy; rw [h] at this; cases this
  have hpf0 : C01.PrefixFree (xs ++ C01.newLeaves els ep) := (hp.pairwise_iff Canon.Incomp.symm).1 hpf
  obtain ⟨wx, px⟩ := C01.ofLeaves_spec xs (List.pairwise_append.1 hpf0).1
    (fun x hx => hne x (hp.mem_iff.2 (List.mem_append_left _ hx)))
  obtain ⟨wy, py⟩ := C01.ofLeaves_spec ys hpf hne
  have hperm : ((CRoot.ofLeaves xs).leaves ++ C01.newLeaves els ep).Perm ys := (px.append_right _).trans hp.symm
  have hpf' := (hperm.pairwise_iff Canon.Incomp.symm).2 hpf
  have hlen' : ∀ lf ∈ (CRoot.ofLeaves xs).leaves ++ C01.newLeaves els ep, 1 ≤ lf.lbl.length ∧ lf.lbl.length ≤ 256 :=
    fun lf hlf => by have := hlen lf (hperm.mem_iff.1 hlf); omega
  obtain ⟨fw, fp⟩ := C01.foldl_insert1_spec _ wx els ep hpf' hlen'
  exact ⟨hpf', hlen', C01.wf_unique _ _ fw wy ((fp.trans hperm).trans py.symm)⟩

section Honest
variable {vrf : VrfTable} (hvrf : C06.VrfOK vrf)
  (c : Cfg) (key : Dig) (t : Table) (hk : t.Pairwise (fun a b => a.1 ≠ b.1)) (hV : ∀ u, VersOK (t.get u))

omit hvrf hk hV in
theorem fresh_present (u : Bytes) (v : Ver) (hv : v ∈ t.get u) (l : NodeLabel)
    (hl : vrf.get? ⟨u, true, v.version⟩ = some l) :
    (⟨l.bits, c.commit v.value (c.nonce key l v.version v.value), v.epoch⟩ : Leaf) ∈ Spec.leaves c key vrf t := by
  rw [mem_leaves_iff]
  refine ⟨(u, t.get u), mem_of_get t u (fun h => by rw [h] at hv; cases hv), v, hv, ?_⟩
  simp [verLeaves, hl]

include hvrf hk

theorem claim_unique {lf : Leaf} (h : lf ∈ Spec.leaves c key vrf t) (u : Bytes) (f : Bool) (ver : Nat) (l : NodeLabel)
    (hl : vrf.get? ⟨u, f, ver⟩ = some l) (hlbl : lf.lbl = l.bits) :
    ∃ v ∈ t.get u, v.version = ver ∧
      ((f = true ∧ lf = ⟨l.bits, c.commit v.value (c.nonce key l v.version v.value), v.epoch⟩) ∨
       (f = false ∧ ∃ nxt, (t.get u).find? (fun w => w.version = v.version + 1) = some nxt ∧
          lf = ⟨l.bits, c.staleValue, nxt.epoch⟩)) := by
  obtain ⟨x, hx, v, hv, hm⟩ := mem_leaves_iff.1 h
  obtain ⟨f', l', h1, e1, hcases⟩ := mem_verLeaves hm
  obtain ⟨hc, rfl⟩ := claim_eq hvrf h1 hl (e1.symm.trans hlbl)
  injection hc with hc1 hc2 hc3
  subst hc1 hc2 hc3
  rw [get_of_mem t hk x hx]
  exact ⟨v, hv, rfl, hcases⟩

theorem fresh_only (u : Bytes) (ver : Nat) (l : NodeLabel) (lf : Leaf) (hl : vrf.get? ⟨u, true, ver⟩ = some l)
    (h : lf ∈ Spec.leaves c key vrf t) (hlbl : lf.lbl = l.bits) :
    ∃ v ∈ t.get u, v.version = ver ∧ lf.value = c.commit v.value (c.nonce key l ver v.value) ∧ lf.ep = v.epoch := by
  obtain ⟨v, hv, hver, ⟨_, e⟩ | ⟨hf, _⟩⟩ := claim_unique hvrf c key t hk h u true ver l hl hlbl
  · subst hver
    exact ⟨v, hv, rfl, by rw [e], by rw [e]⟩
  · cases hf

theorem stale_stamp (u : Bytes) (ver : Nat) (l : NodeLabel) (lf : Leaf) (hl : vrf.get? ⟨u, false, ver⟩ = some l)
    (h : lf ∈ Spec.leaves c key vrf t) (hlbl : lf.lbl = l.bits) :
    lf.value = c.staleValue ∧ ∃ w ∈ t.get u, w.version = ver + 1 ∧ lf.ep = w.epoch := by
  obtain ⟨v, hv, hver, ⟨hf, _⟩ | ⟨_, nxt, hf, e⟩⟩ := claim_unique hvrf c key t hk h u false ver l hl hlbl
  · cases hf
  · subst hver
    refine ⟨by rw [e], nxt, List.mem_of_find?_eq_some hf, ?_, by rw [e]⟩
    have := List.find?_some hf
    simpa using this

include hV

theorem stale_iff (u : Bytes) (ver : Nat) (hver : 1 ≤ ver) (l : NodeLabel) (hl : vrf.get? ⟨u, false, ver⟩ = some l) :
    (∃ lf ∈ Spec.leaves c key vrf t, lf.lbl = l.bits) ↔ ∃ w ∈ t.get u, w.version = ver + 1 := by
  constructor
  · rintro ⟨lf, h, hlbl⟩
    obtain ⟨_, w, hw, hwv, _⟩ := stale_stamp hvrf c key t hk u ver l lf hl h hlbl
    exact ⟨w, hw, hwv⟩
  · rintro ⟨w, hw, hwv⟩
    -- the version `ver` itself is in the list, one position before `w`
    obtain ⟨i, hi, rfl⟩ := List.getElem_of_mem hw
    rw [(hV u).1 i hi] at hwv
    obtain rfl : ver = i := (Nat.succ.inj hwv).symm
    have hi' : ver - 1 < (t.get u).length := Nat.lt_of_le_of_lt (Nat.sub_le _ _) hi
    have hvv : ((t.get u)[ver - 1]).version = ver := ((hV u).1 _ hi').trans (Nat.sub_add_cancel hver)
    obtain ⟨nxt, hnxt⟩ : ∃ nxt, (t.get u).find? (fun w => w.version = ver + 1) = some nxt := by
      apply Option.isSome_iff_exists.1
      rw [List.find?_isSome]
      exact ⟨(t.get u)[ver], List.getElem_mem hi, by simp [(hV u).1 ver hi]⟩
    refine ⟨⟨l.bits, c.staleValue, nxt.epoch⟩, ?_, rfl⟩
    rw [mem_leaves_iff]
    refine ⟨(u, t.get u), mem_of_get t u (fun h => by rw [h] at hi; cases hi), (t.get u)[ver - 1],
      List.getElem_mem hi', ?_⟩
    simp [verLeaves, hvv, hnxt, hl]

end Honest

theorem honestFor_leaves {vrf : VrfTable} (hv : C06.VrfOK vrf) (c : Cfg) (key : Dig) {T : Table} {E : Nat}
    (hT : TableOK T E) (u : Bytes) (ht : ∀ v ∈ T.get u, (vrf.get? ⟨u, true, v.version⟩).isSome) :
    C06.HonestFor c key vrf (CRoot.ofLeaves (Spec.leaves c key vrf T)) u (T.get u) := by
  have hmemL : ∀ lf, lf ∈ (CRoot.ofLeaves (Spec.leaves c key vrf T)).leaves ↔ lf ∈ Spec.leaves c key vrf T :=
    fun lf => (leafTree hv c key hT).2.1.mem_iff
  refine ⟨hT.vers u, ?_, ?_, ?_, ?_⟩
  · intro v hvm
    obtain ⟨l, hl⟩ := Option.isSome_iff_exists.1 (ht v hvm)
    exact ⟨l, hl, (hmemL _).2 (fresh_present c key T u v hvm l hl)⟩
  · intro ver l lf hl hlf hlbl
    exact fresh_only hv c key T hT.keys u ver l lf hl ((hmemL _).1 hlf) hlbl
  · intro ver l hver hl
    rw [← stale_iff hv c key T hT.keys hT.vers u ver hver l hl]
    simp only [hmemL]
  · intro ver l lf _ hl hlf hlbl
    exact stale_stamp hv c key T hT.keys u ver l lf hl ((hmemL _).1 hlf) hlbl

end Akd.Pub

namespace Akd.SpecHist
open Akd Spec Pub

/-- one batch: the leaf set grows by leaves of the new epoch only, so below it nothing changes -/
theorem filter_leaves_applyBatch (c : Cfg) (key : Dig) (vrf : VrfTable) (s : State) (b : List (Bytes × Bytes))
    (hI : Inv s) (i : Nat) (hi : i ≤ s.epoch) :
    ((Spec.leaves c key vrf (applyBatch s b).table).filter (fun lf => lf.ep ≤ i)).Perm
      ((Spec.leaves c key vrf s.table).filter (fun lf => lf.ep ≤ i)) := by
  rcases applyBatch_cases s b with ⟨_, h⟩ | ⟨hnd, _, h⟩ <;> rw [h]
  refine ((leaves_fold c key vrf _ _ _ hnd (fun x _ => hI.vers x.1)).filter _).trans ?_
  rw [List.filter_append]
  refine .of_eq (List.append_right_eq_self.2 (List.filter_eq_nil_iff.2 fun lf hlf => ?_))
  obtain ⟨x, _, hx⟩ := List.mem_flatMap.1 hlf
  have := delta_ep c key vrf _ _ _ _ lf hx
  simp only [decide_eq_true_eq]
  omega

theorem filter_leaves_foldl (c : Cfg) (key : Dig) (vrf : VrfTable) (i : Nat) :
    ∀ (h : List (List (Bytes × Bytes))) (s : State), Inv s → i ≤ s.epoch →
      ((Spec.leaves c key vrf (h.foldl applyBatch s).table).filter (fun lf => lf.ep ≤ i)).Perm
        ((Spec.leaves c key vrf s.table).filter (fun lf => lf.ep ≤ i))
  | [], _, _, _ => List.Perm.refl _
  | b :: h, s, hI, hi =>
    (filter_leaves_foldl c key vrf i h _ (inv_applyBatch s b hI)
      (Nat.le_trans hi (applyBatch_epoch_ge s b))).trans (filter_leaves_applyBatch c key vrf s b hI i hi)

theorem leaves_prefix (c : Cfg) (key : Dig) (vrf : VrfTable) (h : List (List (Bytes × Bytes))) (k : Nat) :
    ((Spec.leaves c key vrf (Spec.run h).table).filter
        (fun lf => lf.ep ≤ (Spec.run (h.take k)).epoch)).Perm
      (Spec.leaves c key vrf (Spec.run (h.take k)).table) := by
  have hI := inv_run (h.take k)
  have h1 := filter_leaves_foldl c key vrf (Spec.run (h.take k)).epoch (h.drop k) _ hI (Nat.le_refl _)
  rw [← run_take_drop] at h1
  have h2 : (Spec.leaves c key vrf (Spec.run (h.take k)).table).filter
      (fun lf => lf.ep ≤ (Spec.run (h.take k)).epoch) = Spec.leaves c key vrf (Spec.run (h.take k)).table := by
    rw [List.filter_eq_self]
    intro lf hlf
    have := (leaves_ep c key vrf _ hI.keys 1 _ hI.eps lf hlf).2
    simpa using this
  rw [h2] at h1
  exact h1

theorem last_leaf (c : Cfg) (key : Dig) (vrf : VrfTable) (s : State) (hI : Inv s) (h0 : 1 ≤ s.epoch)
    (ht : ∀ x ∈ s.table, ∀ ver, 1 ≤ ver → ver ≤ s.epoch → (vrf.get? ⟨x.1, true, ver⟩).isSome) :
    ∃ lf ∈ Spec.leaves c key vrf s.table, lf.ep = s.epoch := by
  rcases hI.last with h | ⟨u, v, hv, he⟩
  · omega
  · have hmem : (u, s.table.get u) ∈ s.table := mem_of_get s.table u (fun h => by rw [h] at hv; cases hv)
    have hver := C06.VersionsOK.version_le (hI.vers u) hv
    have hlen := hI.tableOK.length_le u
    obtain ⟨l, hl⟩ := Option.isSome_iff_exists.1 (ht _ hmem v.version hver.1 (by omega))
    exact ⟨_, fresh_present c key s.table u v hv l hl, he⟩

end Akd.SpecHist
