/-
The prefix-freeness check of the repaired auditor (`Auditor.labelsPrefixFree`): sort by (normalised bytes,
length), compare neighbours.  On well-formed labels the sort key is the dictionary order of the bit strings, in
which the extensions of a string follow it without a gap; so a prefix pair shows up between neighbours.
-/
import AkdModel.Verify
import AkdModel.Thm.C17
namespace Akd.Aud
open Akd NodeLabel BitStr

theorem getPrefix_self_iff (l : NodeLabel) (h : l.len ≤ 256) : l.getPrefix l.len = l ↔ l.Normalised := by
  by_cases hlt : l.len < 256
  · constructor
    · intro e
      have := getPrefix_normalised l l.len hlt
      rwa [e] at this
    · intro hn
      have h1 : (l.getPrefix l.len).len = l.len := getPrefix_len l l.len hlt
      have h2 : (l.getPrefix l.len).val = l.val := by
        apply val_eq_of_bits256
        rw [bits256_getPrefix l l.len hlt]
        exact hn.symm
      generalize l.getPrefix l.len = g at h1 h2
      cases g; cases l
      simp_all
  · exact ⟨fun _ => normalised_of_len_ge l (by omega), fun _ => getPrefix_of_ge l l.len (by omega)⟩

theorem toNat_replicate_false (k : Nat) : BitStr.toNat (List.replicate k false) = 0 := by
  induction k with
  | zero => rfl
  | succ k ih => simp [List.replicate_succ, BitStr.toNat, ih]

/-- first component of the sort key -/
def keyN (l : NodeLabel) : Nat := BitStr.toNat (l.getPrefix l.len).bits256

theorem keyLe_iff (a b : NodeLabel) :
    Auditor.keyLe a b = true ↔ keyN a < keyN b ∨ (keyN a = keyN b ∧ a.len ≤ b.len) := by
  unfold Auditor.keyLe keyN
  rw [cmpBytes_val, BitStr.lex_eq_compare _ _ (by simp [bits256_length])]
  rcases Nat.lt_trichotomy (BitStr.toNat (a.getPrefix a.len).bits256)
    (BitStr.toNat (b.getPrefix b.len).bits256) with h | h | h
  · simp [Nat.compare_eq_lt.mpr h, h]
  · simp [h]
  · rw [Nat.compare_eq_gt.mpr h]
    simp only [Bool.false_eq_true, false_iff]
    omega

theorem keyLe_total (a b : NodeLabel) (h : ¬ Auditor.keyLe a b = true) : Auditor.keyLe b a = true := by
  rw [keyLe_iff] at h ⊢; omega

theorem keyLe_trans (a b c : NodeLabel) (h1 : Auditor.keyLe a b = true) (h2 : Auditor.keyLe b c = true) :
    Auditor.keyLe a c = true := by
  rw [keyLe_iff] at h1 h2 ⊢; omega

theorem insertKey_perm (x : NodeLabel) (ys : List NodeLabel) : (Auditor.insertKey x ys).Perm (x :: ys) := by
  induction ys with
  | nil => simp [Auditor.insertKey]
  | cons y ys ih =>
    simp only [Auditor.insertKey]
    split
    · exact List.Perm.refl _
    · exact (List.Perm.cons y ih).trans (List.Perm.swap x y ys)

theorem insertKey_sorted (x : NodeLabel) (ys : List NodeLabel)
    (h : ys.Pairwise (fun a b => Auditor.keyLe a b = true)) :
    (Auditor.insertKey x ys).Pairwise (fun a b => Auditor.keyLe a b = true) := by
  induction ys with
  | nil => simp [Auditor.insertKey]
  | cons y ys ih =>
    rw [List.pairwise_cons] at h
    simp only [Auditor.insertKey]
    split
    · rename_i hle
      rw [List.pairwise_cons]
      refine ⟨fun z hz => ?_, List.pairwise_cons.mpr h⟩
      rcases List.mem_cons.mp hz with rfl | hz'
      · exact hle
      · exact keyLe_trans _ _ _ hle (h.1 z hz')
    · rename_i hle
      rw [List.pairwise_cons]
      refine ⟨fun z hz => ?_, ih h.2⟩
      have := (insertKey_perm x ys).mem_iff.mp hz
      rcases List.mem_cons.mp this with rfl | hz'
      · exact keyLe_total _ _ hle
      · exact h.1 z hz'

theorem sort_spec (ls : List NodeLabel) :
    (ls.foldr Auditor.insertKey []).Pairwise (fun a b => Auditor.keyLe a b = true) ∧
    (ls.foldr Auditor.insertKey []).Perm ls := by
  induction ls with
  | nil => simp
  | cons x xs ih =>
    rw [List.foldr_cons]
    exact ⟨insertKey_sorted x _ ih.1, (insertKey_perm x _).trans (List.Perm.cons x ih.2)⟩

theorem lex_zeros (z : BitStr) : lex (List.replicate z.length false) z ≠ .gt ∧ lex z (List.replicate z.length false) ≠ .lt := by
  rw [lex_eq_compare _ _ (by simp), lex_eq_compare _ _ (by simp), toNat_replicate_false, ne_eq, ne_eq,
    Nat.compare_eq_gt, Nat.compare_eq_lt]
  omega

/-- the sort key — the strings padded with zeros to a common length, then the lengths — orders bit strings as the
dictionary does -/
theorem lex_pad : ∀ (x y : BitStr) (j k : Nat), x.length + j = y.length + k →
    ((match lex (x ++ List.replicate j false) (y ++ List.replicate k false) with
      | .lt => true
      | .gt => false
      | .eq => decide (x.length ≤ y.length)) = true ↔ lex x y ≠ .gt)
  | [], y, j, k, h => by
    -- both sides hold: the zero string is least, and at equality the empty string is the shorter
    obtain rfl : j = (y ++ List.replicate k false).length := by simpa using h
    have h1 := (lex_zeros (y ++ List.replicate k false)).1
    refine iff_of_true ?_ (by cases y <;> exact nofun)
    rw [List.nil_append]
    generalize lex _ _ = o at h1 ⊢
    cases o
    · rfl
    · exact decide_eq_true (Nat.zero_le _)
    · exact absurd rfl h1
  | a :: x, [], j, k, h => by
    obtain rfl : k = (a :: x ++ List.replicate j false).length := by simp at h ⊢; omega
    have h1 := (lex_zeros (a :: x ++ List.replicate j false)).2
    refine iff_of_false ?_ (fun h => h rfl)
    rw [List.nil_append]
    generalize lex _ _ = o at h1 ⊢
    cases o
    · exact absurd rfl h1
    · exact ne_of_beq_false rfl
    · exact Bool.false_ne_true
  | a :: x, b :: y, j, k, h => by
    simp only [List.cons_append, lex, List.length_cons, Nat.add_le_add_iff_right]
    by_cases hab : a = b
    · rw [if_pos hab, if_pos hab]
      exact lex_pad x y j k (by simp only [List.length_cons] at h; omega)
    · rw [if_neg hab, if_neg hab]
      cases a <;> simp

/-- in the dictionary the extensions of `x` follow `x` without a gap -/
theorem lex_sandwich : ∀ (x y z : BitStr), lex x y ≠ .gt → lex y z ≠ .gt → x <+: z → x <+: y
  | [], _, _, _, _, _ => List.nil_prefix
  | a :: x, [], _, h, _, _ => by simp [lex] at h
  | a :: x, b :: y, [], _, _, h => by simp at h
  | a :: x, b :: y, d :: z, h1, h2, h3 => by
    obtain ⟨rfl, h3'⟩ := List.cons_prefix_cons.mp h3
    by_cases hab : a = b
    · subst hab
      simp only [lex, if_true] at h1 h2
      exact List.cons_prefix_cons.mpr ⟨rfl, lex_sandwich x y z h1 h2 h3'⟩
    · -- `a` before `b` before `a`: both would be `false`
      simp only [lex, if_neg hab, if_neg (Ne.symm hab)] at h1 h2
      exact absurd ((Decidable.of_not_not fun h => h1 (if_neg h)).trans
        (Decidable.of_not_not fun h => h2 (if_neg h)).symm) hab

theorem lex_prefix_antisymm : ∀ (x y : BitStr), lex x y ≠ .gt → y <+: x → x <+: y
  | [], _, _, _ => List.nil_prefix
  | a :: x, [], h, _ => by simp [lex] at h
  | a :: x, b :: y, h, hp => by
    obtain ⟨rfl, hp'⟩ := List.cons_prefix_cons.mp hp
    simp only [lex, if_true] at h
    exact List.cons_prefix_cons.mpr ⟨rfl, lex_prefix_antisymm x y h hp'⟩

theorem keyLe_iff_lex (a b : NodeLabel) (ha : a.len ≤ 256) (hb : b.len ≤ 256) (na : a.Normalised) (nb : b.Normalised) :
    Auditor.keyLe a b = true ↔ lex a.bits b.bits ≠ .gt := by
  unfold Auditor.keyLe
  rw [(getPrefix_self_iff a ha).mpr na, (getPrefix_self_iff b hb).mpr nb, cmpBytes_val, na, nb,
    ← bits_length_of_le a ha, ← bits_length_of_le b hb]
  exact lex_pad a.bits b.bits _ _ (by rw [bits_length_of_le a ha, bits_length_of_le b hb]; omega)

theorem adjacentFree_iff : ∀ (L : List NodeLabel), (∀ l ∈ L, l.len ≤ 256 ∧ l.Normalised) →
    L.Pairwise (fun a b => Auditor.keyLe a b = true) →
    (Auditor.adjacentFree L = true ↔ L.Pairwise (fun a b => ¬ a.bits <+: b.bits ∧ ¬ b.bits <+: a.bits))
  | [], _, _ => by simp [Auditor.adjacentFree]
  | [a], _, _ => by simp [Auditor.adjacentFree]
  | a :: b :: rest, hN, hs => by
    have hNa := hN a (by simp)
    have hNb := hN b (by simp)
    have hN' : ∀ l ∈ b :: rest, l.len ≤ 256 ∧ l.Normalised := fun l hl => hN l (List.mem_cons_of_mem _ hl)
    rw [List.pairwise_cons] at hs
    have ih := adjacentFree_iff (b :: rest) hN' hs.2
    have hpre : a.isPrefixOf b = true ↔ a.bits <+: b.bits := C17.isPrefixOf_iff a b hNa.1 hNb.1
    simp only [Auditor.adjacentFree, Bool.and_eq_true, Bool.not_eq_true', ih]
    constructor
    · rintro ⟨h1, h2⟩
      have hnab : ¬ a.bits <+: b.bits := by
        intro h; rw [hpre.mpr h] at h1; cases h1
      rw [List.pairwise_cons]
      refine ⟨?_, h2⟩
      -- `a` a prefix of a later `c` would be a prefix of its neighbour `b` already, `b` lying between them in the dictionary
      have claim1 : ∀ c ∈ b :: rest, ¬ a.bits <+: c.bits := by
        intro c hc hac
        have hNc := hN' c hc
        rcases List.mem_cons.mp hc with rfl | hc'
        · exact hnab hac
        · have hbc : Auditor.keyLe b c = true := (List.pairwise_cons.mp hs.2).1 c hc'
          exact hnab (lex_sandwich _ _ _ ((keyLe_iff_lex a b hNa.1 hNb.1 hNa.2 hNb.2).mp (hs.1 b (by simp)))
            ((keyLe_iff_lex b c hNb.1 hNc.1 hNb.2 hNc.2).mp hbc) hac)
      intro c hc
      have hNc := hN' c hc
      exact ⟨claim1 c hc, fun hca =>
        claim1 c hc (lex_prefix_antisymm _ _ ((keyLe_iff_lex a c hNa.1 hNc.1 hNa.2 hNc.2).mp (hs.1 c hc)) hca)⟩
    · intro h
      rw [List.pairwise_cons] at h
      refine ⟨?_, h.2⟩
      have := (h.1 b (by simp)).1
      cases hp : a.isPrefixOf b with
      | false => rfl
      | true => exact absurd (hpre.mp hp) this

theorem labelsPrefixFree_iff (ls : List NodeLabel) :
    Auditor.labelsPrefixFree ls = true ↔
      (∀ l ∈ ls, l.len ≤ 256 ∧ l.Normalised) ∧
      ls.Pairwise (fun a b => ¬ a.bits <+: b.bits ∧ ¬ b.bits <+: a.bits) := by
  have hall : (ls.all (fun l => decide (l.len ≤ 256) && decide (l.getPrefix l.len = l)) = true) ↔
      ∀ l ∈ ls, l.len ≤ 256 ∧ l.Normalised := by
    simp only [List.all_eq_true, Bool.and_eq_true, decide_eq_true_eq]
    exact forall₂_congr fun l _ => and_congr_right fun h => getPrefix_self_iff l h
  unfold Auditor.labelsPrefixFree
  rw [Bool.and_eq_true, hall]
  obtain ⟨hs, hp⟩ := sort_spec ls
  exact and_congr_right fun hN => (adjacentFree_iff _ (fun l hl => hN l (hp.mem_iff.mp hl)) hs).trans
    (hp.pairwise_iff fun h => ⟨h.2, h.1⟩)

end Akd.Aud
