/-
The "frontier" of a trie.

A well-formed trie `F` whose leaves are opaque elements (hashed without leaf epoch) and a trie `T`
(hashed with leaf epochs) that have the same root value: every opaque element of `F` is a node of
`T` (same label, same digest), and every leaf of `T` lies below one of these nodes.
-/
import AkdModel.Verify
import AkdModel.Thm.C01b
import AkdModel.Thm.C05
namespace Akd.Aud
open Akd
open Akd.Ins (oleaves)

theorem sub_trans {s a b : CTree} (h1 : CTree.Sub s a) (h2 : CTree.Sub a b) : CTree.Sub s b := by
  induction h2 with
  | refl => exact h1
  | left q r _ ih => exact CTree.Sub.left q r ih
  | right q l _ ih => exact CTree.Sub.right q l ih

/-- the opaque element `x` carries the label and the digest of the sub-trie `s` -/
def Stands (c : Cfg) (x : Leaf) (s : CTree) : Prop :=
  NodeLabel.ofBits s.lbl = NodeLabel.ofBits x.lbl ∧ s.azks c .withLeafEpoch = x.value

/-- the opaque elements `xs` are a frontier of the leaves `ls` among the sub-tries `node`: each element stands for a
node, and each leaf lies below a node some element stands for -/
structure Frontier (c : Cfg) (node : CTree → Prop) (xs ls : List Leaf) : Prop where
  stands : ∀ x ∈ xs, ∃ s, node s ∧ Stands c x s
  covers : ∀ lf ∈ ls, ∃ x ∈ xs, ∃ s, node s ∧ Stands c x s ∧ lf ∈ s.leaves

theorem Frontier.nil (c : Cfg) (node : CTree → Prop) : Frontier c node [] [] :=
  ⟨fun _ h => (nomatch h), fun _ h => (nomatch h)⟩

theorem Frontier.mono {c : Cfg} {node node' : CTree → Prop} {xs ls : List Leaf} (h : Frontier c node xs ls)
    (hn : ∀ s, node s → node' s) : Frontier c node' xs ls := by
  constructor
  · intro x hx
    obtain ⟨s, hs, h1⟩ := h.stands x hx
    exact ⟨s, hn s hs, h1⟩
  · intro lf hlf
    obtain ⟨x, hx, s, hs, h1⟩ := h.covers lf hlf
    exact ⟨x, hx, s, hn s hs, h1⟩

theorem Frontier.append {c : Cfg} {node : CTree → Prop} {xs ls xs' ls' : List Leaf} (h : Frontier c node xs ls)
    (h' : Frontier c node xs' ls') : Frontier c node (xs ++ xs') (ls ++ ls') := by
  constructor
  · intro x hx
    rcases List.mem_append.mp hx with hx | hx
    · exact h.stands x hx
    · exact h'.stands x hx
  · intro lf hlf
    rcases List.mem_append.mp hlf with hlf | hlf
    · obtain ⟨x, hx, r⟩ := h.covers lf hlf
      exact ⟨x, List.mem_append_left _ hx, r⟩
    · obtain ⟨x, hx, r⟩ := h'.covers lf hlf
      exact ⟨x, List.mem_append_right _ hx, r⟩

/-- the frontier lemma on sub-trees: the walk down `F` is a walk down `T`, since a parent hash determines the labels
and digests of both children; where `F` ends in an opaque leaf, `T` continues with the sub-trie it stands for -/
theorem frontier_tree (c : Cfg) (hc : c.Lawful) (F T : CTree)
    (hq : NodeLabel.ofBits F.lbl = NodeLabel.ofBits T.lbl) (h : F.azks c .noLeafEpoch = T.azks c .withLeafEpoch) :
    Frontier c (CTree.Sub · T) F.leaves T.leaves := by
  induction F generalizing T with
  | leaf q v e =>
    have hs : Stands c ⟨q, v, e⟩ T := ⟨hq.symm, h.symm⟩
    refine ⟨fun x hx => ?_, fun lf hlf => ⟨⟨q, v, e⟩, List.mem_singleton.mpr rfl, T, .refl, hs, hlf⟩⟩
    obtain rfl := List.mem_singleton.mp hx
    exact ⟨T, .refl, hs⟩
  | node q l r ihl ihr =>
    simp only [CTree.azks] at h
    cases T with
    | leaf q' v' e' => exact absurd h.symm (hc.leaf_ne_parent _ _ _ _ _ _)
    | node q' l' r' =>
      obtain ⟨hlv, hll, hrv, hrl⟩ := hc.parent_inj _ _ _ _ _ _ _ _ h
      exact ((ihl l' hll hlv).mono fun s => CTree.Sub.left q' r').append
        ((ihr r' hrl hrv).mono fun s => CTree.Sub.right q' l')

theorem frontier_slot (c : Cfg) (hc : c.Lawful) (hfresh : C05.EmptyLabelFresh c) (o₁ o₂ : Option CTree)
    (b₁ : ∀ a, o₁ = some a → a.lbl.length ≤ 256)
    (hv : CRoot.childValue c .noLeafEpoch o₁ = CRoot.childValue c .withLeafEpoch o₂)
    (hl : CRoot.childLabel c o₁ = CRoot.childLabel c o₂) :
    Frontier c (fun s => ∃ a, o₂ = some a ∧ CTree.Sub s a) (oleaves o₁) (oleaves o₂) := by
  cases o₁ with
  | none =>
    cases o₂ with
    | none => exact Frontier.nil c _
    | some t => exact absurd hv.symm (Canon.Tree.azks_ne_emptyNode c hc t)
  | some f =>
    cases o₂ with
    | none => exact absurd hl (hfresh f.lbl (b₁ f rfl))
    | some t => exact (frontier_tree c hc f t hl hv).mono fun s hs => ⟨t, rfl, hs⟩

def Node (T : CRoot) (s : CTree) : Prop := ∃ a, T.Child a ∧ CTree.Sub s a

theorem Node.wf {T : CRoot} {s : CTree} (h : Node T s) (hT : T.WF) : s.WF := by
  obtain ⟨a, ha, hs⟩ := h
  exact CTree.WF.sub hs (hT.child ha)

theorem Node.leaves_subset {T : CRoot} {s : CTree} (h : Node T s) {lf : Leaf} (hl : lf ∈ s.leaves) :
    lf ∈ T.leaves := by
  obtain ⟨a, ha, hs⟩ := h
  exact CRoot.mem_leaves.mpr ⟨a, ha, hs.leaves_subset hl⟩

theorem frontier_root (c : Cfg) (hc : c.Lawful) (hfresh : C05.EmptyLabelFresh c) (F T : CRoot)
    (hF : F.WF) (bF : ∀ lf ∈ F.leaves, lf.lbl.length ≤ 256)
    (h : F.value c .noLeafEpoch = T.value c .withLeafEpoch) : Frontier c (Node T) F.leaves T.leaves := by
  have bch : ∀ a, F.Child a → a.lbl.length ≤ 256 := fun a ha =>
    Canon.Tree.lbl_length_le (hF.child ha) fun lf hlf => bF lf (CRoot.mem_leaves.mpr ⟨a, ha, hlf⟩)
  rcases CRoot.not_empty_cases F with heF | heF <;> rcases CRoot.not_empty_cases T with heT | heT
  · obtain ⟨Fl, Fr⟩ := F
    obtain ⟨Tl, Tr⟩ := T
    obtain ⟨rfl, rfl⟩ := heF
    obtain ⟨rfl, rfl⟩ := heT
    exact Frontier.nil c _
  · rw [CRoot.value_empty c _ F heF, CRoot.value_eq_parent c _ T heT] at h
    exact absurd h.symm (hc.parent_ne_emptyRoot _ _ _ _)
  · rw [CRoot.value_eq_parent c _ F heF, CRoot.value_empty c _ T heT] at h
    exact absurd h (hc.parent_ne_emptyRoot _ _ _ _)
  · rw [CRoot.value_eq_parent c _ F heF, CRoot.value_eq_parent c _ T heT] at h
    obtain ⟨hlv, hll, hrv, hrl⟩ := hc.parent_inj _ _ _ _ _ _ _ _ h
    exact ((frontier_slot c hc hfresh F.l T.l (fun a h => bch a (Or.inl h)) hlv hll).mono
        fun s ⟨a, ha, hs⟩ => ⟨a, Or.inl ha, hs⟩).append
      ((frontier_slot c hc hfresh F.r T.r (fun a h => bch a (Or.inr h)) hrv hrl).mono
        fun s ⟨a, ha, hs⟩ => ⟨a, Or.inr ha, hs⟩)

/-- the core of audit soundness: `F₁` (resp. `F₂`) is a trie of opaque elements with the root
value of `T₁` (resp. `T₂`), and every element of `F₁` is an element of `F₂` -/
theorem audit_core (c : Cfg) (hc : c.Lawful) (hfresh : C05.EmptyLabelFresh c) (F₁ F₂ T₁ T₂ : CRoot)
    (hF₁ : F₁.WF) (hF₂ : F₂.WF) (hT₁ : T₁.WF) (hT₂ : T₂.WF)
    (bF₁ : ∀ lf ∈ F₁.leaves, lf.lbl.length ≤ 256) (bF₂ : ∀ lf ∈ F₂.leaves, lf.lbl.length ≤ 256)
    (bT₁ : ∀ lf ∈ T₁.leaves, lf.lbl.length ≤ 256) (bT₂ : ∀ lf ∈ T₂.leaves, lf.lbl.length ≤ 256)
    (h₁ : F₁.value c .noLeafEpoch = T₁.value c .withLeafEpoch)
    (h₂ : F₂.value c .noLeafEpoch = T₂.value c .withLeafEpoch)
    (hsub : ∀ x ∈ F₁.leaves, x ∈ F₂.leaves) :
    ∀ lf ∈ T₁.leaves, lf ∈ T₂.leaves := by
  intro lf hlf
  obtain ⟨x, hx, s₁, hn₁, ⟨hl₁, hv₁⟩, hin⟩ := (frontier_root c hc hfresh F₁ T₁ hF₁ bF₁ h₁).covers lf hlf
  obtain ⟨s₂, hn₂, hl₂, hv₂⟩ := (frontier_root c hc hfresh F₂ T₂ hF₂ bF₂ h₂).stands x (hsub x hx)
  have b₁ : ∀ lf ∈ s₁.leaves, lf.lbl.length ≤ 256 := fun lf h => bT₁ lf (hn₁.leaves_subset h)
  have b₂ : ∀ lf ∈ s₂.leaves, lf.lbl.length ≤ 256 := fun lf h => bT₂ lf (hn₂.leaves_subset h)
  have e : s₁ = s₂ := Canon.Tree.azks_inj c hc s₁ s₂ (hn₁.wf hT₁) (hn₂.wf hT₂) b₁ b₂
    (NodeLabel.ofBits_inj (Canon.Tree.lbl_length_le (hn₁.wf hT₁) b₁) (Canon.Tree.lbl_length_le (hn₂.wf hT₂) b₂)
      (hl₁.trans hl₂.symm)) (hv₁.trans hv₂.symm)
  exact hn₂.leaves_subset (e ▸ hin)

end Akd.Aud
