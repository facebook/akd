/-
Bytes against bits.  `byteBit` and `bitB` name the bit that the byte-level operations of `NodeLabel`
compute with shifts and masks; `bits256`, `bits`, `ofBits`, `getPrefix` and `isPrefixOf` are then
characterised bit by bit.
-/
import AkdModel.Label
import AkdModel.Bits
namespace Akd

/-- bit `j` of a byte, most significant first -/
def byteBit (b : UInt8) (j : Nat) : Bool := b.toNat.testBit (7 - j)

theorem toNat_toUInt8_mod (k : Nat) (hk : k < 8) : k.toUInt8.toNat % 8 = k := by
  simp [Nat.toUInt8]; omega

/-- the test in `get_bit_from_slice` reads `byteBit` -/
theorem shift_and_one (b : UInt8) (j : Nat) (hj : j < 8) :
    ((b >>> (7 - j).toUInt8) &&& 1 == 0) = !byteBit b j := by
  have hx : ((b >>> (7 - j).toUInt8) &&& 1).toNat = 1 &&& (b.toNat >>> (7 - j)) := by
    rw [UInt8.toNat_and, UInt8.toNat_shiftRight, toNat_toUInt8_mod _ (by omega), UInt8.toNat_one,
      Nat.and_comm]
  rw [byteBit, Nat.testBit, ← hx, Bool.eq_iff_iff]
  simp [← UInt8.toNat_inj]

/-- the mask in `get_prefix` keeps the bits `0..r` of the byte -/
theorem byteBit_mask (b : UInt8) (r j : Nat) (hr : r < 8) (hj : j < 8) :
    byteBit ((b >>> (7 - r).toUInt8) <<< (7 - r).toUInt8) j
      = (if j ≤ r then byteBit b j else false) := by
  simp only [byteBit, UInt8.toNat_shiftLeft, UInt8.toNat_shiftRight,
    toNat_toUInt8_mod _ (by omega : 7 - r < 8), Nat.testBit_mod_two_pow, Nat.testBit_shiftLeft,
    Nat.testBit_shiftRight]
  by_cases h : j ≤ r
  · simp [h, show 7 - j < 8 by omega, show 7 - r ≤ 7 - j by omega,
      show 7 - r + (7 - j - (7 - r)) = 7 - j by omega]
  · simp [h, show ¬ 7 - r ≤ 7 - j by omega]

theorem byteBit_byteOfBits (l : List Bool) (j : Nat) (hj : j < 8) :
    byteBit (byteOfBits l) j = l.getD j false := by
  -- Horner's rule: after `n` rounds bit `i < n` of the list sits at position `n - 1 - i`
  have key : ∀ n i, i < n →
      ((List.range n).foldl (fun acc i => acc * 2 + (if l.getD i false then 1 else 0)) 0).testBit
        (n - 1 - i) = l.getD i false := by
    intro n
    induction n with
    | zero => intro i hi; omega
    | succ n ih =>
      intro i hi
      rw [List.range_succ, List.foldl_append, List.foldl_cons, List.foldl_nil]
      generalize List.foldl _ 0 (List.range n) = a at ih ⊢
      by_cases hin : i = n
      · subst hin
        rw [show i + 1 - 1 - i = 0 by omega, Nat.testBit_zero]
        cases l.getD i false <;> simp <;> omega
      · rw [show n + 1 - 1 - i = (n - 1 - i) + 1 by omega, Nat.testBit_succ, ← ih i (by omega)]
        congr 1
        split <;> omega
  rw [byteBit, byteOfBits, UInt8.toNat_ofNat', Nat.testBit_mod_two_pow, key 8 j hj]
  simp; omega

theorem byte_ext (x y : UInt8) (h : ∀ j, j < 8 → byteBit x j = byteBit y j) : x = y := by
  apply UInt8.toNat_inj.1
  apply Nat.eq_of_testBit_eq
  intro i
  by_cases hi : i < 8
  · simpa [byteBit, show 7 - (7 - i) = i by omega] using h (7 - i) (by omega)
  · have : ∀ z : UInt8, z.toNat.testBit i = false := fun z => Nat.testBit_lt_two_pow
      (Nat.lt_of_lt_of_le z.toNat_lt (Nat.pow_le_pow_right (by omega) (by omega : 8 ≤ i)))
    rw [this, this]

/-- bit `i` of the array -/
def bitB (v : Vector UInt8 32) (i : Nat) : Bool :=
  if h : i < 256 then byteBit (v[i / 8]'(by omega)) (i % 8) else false

theorem bitOfBytes_eq (v : Vector UInt8 32) (i : Nat) (h : i < 256) :
    bitOfBytes v i = .bit (bitB v i) := by
  unfold bitOfBytes bitB
  simp only [h, ↓reduceDIte]
  rw [shift_and_one _ _ (Nat.mod_lt _ (by omega))]
  cases byteBit v[i / 8] (i % 8) <;> simp

theorem map_range_eq_append_replicate {f : Nat → Bool} {bs : List Bool} {n : Nat} (h : bs.length ≤ n)
    (hf : ∀ i, i < n → f i = bs.getD i false) :
    (List.range n).map f = bs ++ List.replicate (n - bs.length) false := by
  apply List.ext_getElem
  · simp; omega
  · intro i h1 _
    have hi : i < n := by simpa using h1
    rw [List.getElem_map, List.getElem_range, hf i hi]
    by_cases hb : i < bs.length
    · rw [List.getElem_append_left hb]; simp [hb]
    · rw [List.getElem_append_right (by omega)]; simp [hb]

namespace NodeLabel

theorem bits256_eq_map (l : NodeLabel) : l.bits256 = (List.range 256).map (bitB l.val) :=
  List.map_congr_left fun i hi => by rw [bitOfBytes_eq _ _ (by simpa using hi)]

theorem bits256_length (l : NodeLabel) : l.bits256.length = 256 := by
  simp [bits256]

theorem bits256_getElem (l : NodeLabel) (i : Nat) (h : i < l.bits256.length) :
    l.bits256[i] = bitB l.val i := by
  simp [bits256_eq_map]

theorem bits_length (l : NodeLabel) : l.bits.length = min l.len 256 := by
  simp [bits, bits256_length]

theorem bits_length_of_le (l : NodeLabel) (h : l.len ≤ 256) : l.bits.length = l.len := by
  rw [bits_length]; omega

theorem normalised_of_len_ge (l : NodeLabel) (h : 256 ≤ l.len) : l.Normalised := by
  unfold Normalised bits
  rw [List.take_of_length_le (by rw [bits256_length]; exact h), Nat.sub_eq_zero_of_le h]
  simp

theorem bits_getElem (l : NodeLabel) (i : Nat) (h : i < l.bits.length) :
    l.bits[i] = bitB l.val i := by
  simp [bits, bits256_getElem]

theorem bitAt_eq (l : NodeLabel) (i : Nat) (h1 : i < l.len) (h2 : i < 256) :
    l.bitAt i = .bit (bitB l.val i) := by
  simp [bitAt, Nat.not_le.2 h1, bitOfBytes_eq _ _ h2]

theorem bitAt_eq_iff (a b : NodeLabel) (i : Nat) (ha : i < a.len) (hb : i < b.len) (h : i < 256) :
    a.bitAt i = b.bitAt i ↔ bitB a.val i = bitB b.val i := by
  rw [bitAt_eq a i ha h, bitAt_eq b i hb h, BitRes.bit.injEq]

theorem val_eq_of_bitB (v w : Vector UInt8 32) (h : ∀ i, i < 256 → bitB v i = bitB w i) : v = w := by
  apply Vector.ext
  intro k hk
  apply byte_ext
  intro j hj
  have := h (8 * k + j) (by omega)
  simpa only [bitB, show 8 * k + j < 256 by omega, ↓reduceDIte, show (8 * k + j) / 8 = k by omega,
    show (8 * k + j) % 8 = j by omega] using this

theorem val_eq_of_bits256 (a b : NodeLabel) (h : a.bits256 = b.bits256) : a.val = b.val := by
  apply val_eq_of_bitB
  intro i hi
  rw [← bits256_getElem a i (by simp [bits256_length, hi]),
    ← bits256_getElem b i (by simp [bits256_length, hi])]
  simp [h]

theorem bitB_ofBits (bs : BitStr) (i : Nat) (hi : i < 256) :
    bitB (ofBits bs).val i = bs.getD i false := by
  simp only [bitB, hi, ↓reduceDIte, ofBits, Vector.getElem_ofFn]
  rw [byteBit_byteOfBits _ _ (Nat.mod_lt _ (by omega))]
  simp only [List.getD_eq_getElem?_getD, List.getElem?_drop]
  congr 2
  omega

theorem bits256_ofBits (bs : BitStr) (h : bs.length ≤ 256) :
    (ofBits bs).bits256 = bs ++ List.replicate (256 - bs.length) false := by
  rw [bits256_eq_map]
  exact map_range_eq_append_replicate h (bitB_ofBits bs)

theorem getPrefix_len (a : NodeLabel) (n : Nat) (hn : n < 256) : (a.getPrefix n).len = n := by
  unfold getPrefix
  rw [if_neg (by omega)]
  split
  · simp_all
  · rfl

theorem bitB_getPrefix (a : NodeLabel) (n i : Nat) (hn : n < 256) :
    bitB (a.getPrefix n).val i = (if i < n then bitB a.val i else false) := by
  unfold getPrefix
  rw [if_neg (by omega)]
  by_cases hi : i < 256
  · split
    · subst n; simp [bitB, byteBit]
    · -- the byte of bit `i` lies before, at, or after the byte of the last bit kept
      simp only [bitB, hi, ↓reduceDIte, Vector.getElem_ofFn]
      by_cases h1 : i / 8 < (n - 1) / 8
      · simp [h1, show i < n by omega]
      · by_cases h2 : i / 8 = (n - 1) / 8
        · simp only [h2, Nat.lt_irrefl, ↓reduceIte, Fin.getElem_fin]
          rw [byteBit_mask _ _ _ (Nat.mod_lt _ (by omega)) (Nat.mod_lt _ (by omega))]
          simp [show i % 8 ≤ (n - 1) % 8 ↔ i < n by omega]
        · simp [h1, h2, show ¬ i < n by omega, byteBit]
  · simp [bitB, hi]

theorem bits256_getPrefix (a : NodeLabel) (n : Nat) (hn : n < 256) :
    (a.getPrefix n).bits256 = a.bits256.take n ++ List.replicate (256 - n) false := by
  have hl : (a.bits256.take n).length = n := by simp [bits256_length]; omega
  have := map_range_eq_append_replicate (f := bitB (a.getPrefix n).val) (bs := a.bits256.take n)
    (n := 256) (by omega) fun i hi => by
      rw [bitB_getPrefix a n i hn]
      split <;> simp [*, List.getD_eq_getElem?_getD, bits256_getElem]
  rwa [hl, ← bits256_eq_map] at this

theorem allBelow_iff (p : Nat → Bool) (n : Nat) : allBelow p n = true ↔ ∀ i, i < n → p i = true := by
  induction n with
  | zero => simp [allBelow]
  | succ n ih => simp [allBelow, ih, Nat.forall_lt_succ_right]

theorem prefix_bits_iff (t : List Bool) (b : NodeLabel) (hb : b.len ≤ 256) :
    t <+: b.bits ↔ t.length ≤ b.len ∧ ∀ i (h : i < t.length), t[i] = bitB b.val i := by
  rw [bits, List.prefix_take_iff, List.prefix_iff_getElem, and_comm]
  refine and_congr_right fun hl => ⟨fun ⟨_, h⟩ i hi => ?_, fun h => ⟨?_, fun i hi => ?_⟩⟩
  · rw [h i hi, bits256_getElem]
  · rw [bits256_length]; omega
  · rw [h i hi, bits256_getElem]

theorem bits_prefix_iff (a b : NodeLabel) (ha : a.len ≤ 256) (hb : b.len ≤ 256) :
    a.bits <+: b.bits ↔ a.len ≤ b.len ∧ ∀ i, i < a.len → bitB a.val i = bitB b.val i := by
  have hlen : a.bits.length = a.len := by rw [bits_length]; omega
  rw [prefix_bits_iff _ _ hb]
  constructor
  · exact fun ⟨h1, h2⟩ => ⟨by omega, fun i hi => by rw [← h2 i (by omega), bits_getElem]⟩
  · exact fun ⟨h1, h2⟩ => ⟨by omega, fun i hi => by rw [bits_getElem, h2 i (by omega)]⟩

theorem isPrefixOf_iff' (a b : NodeLabel) (hb : b.len ≤ 256) :
    a.isPrefixOf b = true ↔ a.len ≤ b.len ∧ ∀ i, i < a.len → bitB a.val i = bitB b.val i := by
  unfold isPrefixOf
  by_cases h : a.len > b.len
  · simp [h]; omega
  · simp only [h, ↓reduceIte, allBelow_iff, Nat.not_lt.1 h, true_and, beq_iff_eq]
    exact forall_congr' fun i => imp_congr_right fun hi =>
      bitAt_eq_iff a b i hi (by omega) (by omega)

end NodeLabel
end Akd
