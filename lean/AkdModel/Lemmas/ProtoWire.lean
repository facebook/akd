/-
The generated `merge_from` loop (`parseMsg.loop`) run on what the canonical writer wrote: one value,
all values of a field, all fields of a message.  Everything here is one level of nesting: what is
required of nested messages (`P`) and what parsing them gives back (`E`) are parameters, and
`parse_fields` turns a round trip for nested messages into one for the message.  The induction on the
nesting depth, with `MsgOK` and `MsgEqv` for `P` and `E`, is `C19.parse_write`.
-/
import AkdModel.Lemmas.ProtoVarint
namespace Akd.Proto

/-- the value reader of `parseMsg.loop` for a known field -/
def readVal (fuel level : Nat) (kind : Kind) (rest : In) : Option (PVal × In) :=
  match kind with
  | .bytes =>
    match rest.varint32 with
    | some (len, r2) => (r2.take len).map fun (b, r3) => (PVal.bytes b, r3)
    | none => none
  | .uint32 => (rest.varint32).map fun (v, r) => (PVal.num v, r)
  | .uint64 => (rest.varint64).map fun (v, r) => (PVal.num v, r)
  | .msg sub =>
    if level ≥ 100 then none
    else
    match rest.varint64 with
    | some (len, r2) =>
      if len > r2.lim then none
      else
        match parseMsg fuel (level + 1) sub ⟨r2.bytes, len⟩ with
        | some (m, inner) => some (PVal.msg m, popLimit r2 len inner)
        | none => none
    | none => none

theorem loop_known {fuel level : Nat} {ty : MsgTy} {k : Nat} {i : In} {acc : PMsg}
    {t : Nat} {rest : In} {f : FieldSpec} {v : PVal} {rest' : In}
    (heof : i.eof = false) (hvar : i.varint32 = some (t, rest))
    (htag : unpackTag? t = some (f.num, wireOf f.kind)) (hfind : findSpec ty f.num = some f)
    (hval : readVal fuel level f.kind rest = some (v, rest')) :
    parseMsg.loop fuel level ty (k + 1) i acc =
      parseMsg.loop fuel level ty k rest' (acc.put f.num (if f.repeated then acc.get f.num ++ [v] else [v])) := by
  rw [parseMsg.loop.eq_2]
  simp only [heof, hvar, htag, hfind, if_true]
  simp only [Bool.false_eq_true, if_false]
  change (match readVal fuel level f.kind rest with
    | none => none
    | some (v, rest') => parseMsg.loop fuel level ty k rest' (acc.put f.num (if f.repeated = true then acc.get f.num ++ [v] else [v]))) = _
  rw [hval]

theorem loop_eof (fuel level : Nat) (ty : MsgTy) (k : Nat) (i : In) (acc : PMsg) (hk : 1 ≤ k)
    (h : i.eof = true) : parseMsg.loop fuel level ty k i acc = some (acc, i) := by
  obtain ⟨k, rfl⟩ : ∃ j, k = j + 1 := ⟨k - 1, by omega⟩
  rw [parseMsg.loop.eq_2, if_pos h]

theorem get_put (acc : PMsg) (a b : Nat) (vs : List PVal) :
    (acc.put a vs).get b = if a = b then vs else acc.get b := by
  induction acc with
  | nil => simp [PMsg.put, PMsg.get]
  | cons e acc ih =>
    obtain ⟨n, old⟩ := e
    by_cases h : n = a <;> by_cases h2 : n = b <;> simp_all [PMsg.put, PMsg.get]
    exact fun h3 => absurd h3.symm h

theorem get_mem (m : PMsg) (n : Nat) (h : m.get n ≠ []) : (n, m.get n) ∈ m := by
  induction m with
  | nil => simp [PMsg.get] at h
  | cons e m ih =>
    obtain ⟨k, vs⟩ := e
    by_cases hk : k = n
    · subst hk; simp [PMsg.get]
    · simp only [PMsg.get, hk, if_false] at h ⊢
      exact List.mem_cons_of_mem _ (ih h)

/-- field number, then the three bits of the wire type: 0 for a varint, 2 for length-delimited -/
def tagOf (f : FieldSpec) : Nat := f.num * 8 + (match wireOf f.kind with | .varint => 0 | _ => 2)

/-- what `writeMsgF` writes for one value of field `f`; nothing for a value of another kind -/
def encVal (d : Nat) (f : FieldSpec) (v : PVal) : Bytes :=
  match v, f.kind with
  | .bytes b, .bytes => writeVarint (tagOf f) ++ lenDelim b
  | .num n, .uint32 => writeVarint (tagOf f) ++ writeVarint n
  | .num n, .uint64 => writeVarint (tagOf f) ++ writeVarint n
  | .msg sub, .msg sty => writeVarint (tagOf f) ++ lenDelim (writeMsgF d sty sub)
  | _, _ => []

theorem writeMsgF_succ (d : Nat) (ty : MsgTy) (m : PMsg) :
    writeMsgF (d + 1) ty m = (schema ty).flatMap fun f => (m.get f.num).flatMap fun v => encVal d f v := by
  rfl

deriving instance DecidableEq for FieldSpec

theorem schema_facts (ty : MsgTy) : ∀ f ∈ schema ty,
    findSpec ty f.num = some f ∧ tagOf f < 128 ∧ unpackTag? (tagOf f) = some (f.num, wireOf f.kind) := by
  cases ty <;> decide

theorem schema_nodup (ty : MsgTy) : ((schema ty).map (·.num)).Nodup := by
  cases ty <;> decide

theorem findSpec_mem (ty : MsgTy) (n : Nat) (f : FieldSpec) (h : findSpec ty n = some f) :
    f ∈ schema ty ∧ f.num = n := by
  unfold findSpec at h
  exact ⟨List.mem_of_find?_eq_some h, by simpa using List.find?_some h⟩

/-- a value of a field of kind `k` that the parser reads back: numbers and lengths in range; `P` is
what is asked of a nested message -/
def ValOK (P : MsgTy → PMsg → Prop) (d : Nat) (v : PVal) (k : Kind) : Prop :=
  match v, k with
  | .bytes b, .bytes => b.length < 2 ^ 31
  | .num n, .uint32 => n < 2 ^ 32
  | .num n, .uint64 => n < 2 ^ 64
  | .msg sub, .msg sty => P sty sub ∧ (writeMsgF d sty sub).length < 2 ^ 31
  | _, _ => False

/-- every key is a field of the schema, a singular field has at most one value, every value is `ValOK` -/
def FieldsOK (P : MsgTy → PMsg → Prop) (d : Nat) (ty : MsgTy) (m : PMsg) : Prop :=
  ∀ n vs, (n, vs) ∈ m → ∃ f, findSpec ty n = some f ∧ (f.repeated = false → vs.length ≤ 1) ∧
    ∀ v ∈ vs, ValOK P d v f.kind

/-- equal values; nested messages related by `E` -/
def ValEqv (E : PMsg → PMsg → Prop) : PVal → PVal → Prop
  | .bytes p, .bytes q => p = q
  | .num p, .num q => p = q
  | .msg s, .msg t => E s t
  | _, _ => False

/-- pointwise relation of two lists of the same length -/
def ListRel {α β : Type} (R : α → β → Prop) : List α → List β → Prop
  | [], [] => True
  | x :: xs, y :: ys => R x y ∧ ListRel R xs ys
  | _, _ => False

/-- under every field number the same values in the same order, nested messages related by `E` -/
def FieldsEqv (E : PMsg → PMsg → Prop) (a b : PMsg) : Prop :=
  ∀ n, ListRel (ValEqv E) (a.get n) (b.get n)

theorem FieldsOK.field {P d ty m} (h : FieldsOK P d ty m) (f : FieldSpec) (hf : f ∈ schema ty) :
    (∀ v ∈ m.get f.num, ValOK P d v f.kind) ∧ (f.repeated = false → (m.get f.num).length ≤ 1) := by
  by_cases hg : m.get f.num = []
  · simp [hg]
  · obtain ⟨f', hf', h1, h2⟩ := h _ _ (get_mem m f.num hg)
    rw [(schema_facts ty f hf).1] at hf'
    cases hf'
    exact ⟨h2, h1⟩

theorem FieldsOK.get_nil {P d ty m} (h : FieldsOK P d ty m) (n : Nat)
    (hn : n ∉ (schema ty).map (·.num)) : m.get n = [] := by
  apply Classical.byContradiction
  intro hg
  obtain ⟨f', hf', _⟩ := h _ _ (get_mem m n hg)
  obtain ⟨h1, h2⟩ := findSpec_mem ty n f' hf'
  exact hn (List.mem_map.mpr ⟨f', h1, h2⟩)

/-- `enc` is consumed by `c ≤ enc.length` iterations of the loop, turning `acc` into `acc'` -/
def Steps (fuel level : Nat) (ty : MsgTy) (enc : Bytes) (acc acc' : PMsg) : Prop :=
  ∃ c, c ≤ enc.length ∧ ∀ k tail lim, enc.length ≤ lim →
    parseMsg.loop fuel level ty (k + c) ⟨enc ++ tail, lim⟩ acc = parseMsg.loop fuel level ty k ⟨tail, lim - enc.length⟩ acc'

theorem Steps.nil {fuel level ty acc} : Steps fuel level ty [] acc acc :=
  ⟨0, Nat.le_refl _, fun k tail lim _ => by simp⟩

theorem Steps.append {fuel level ty e1 e2 a b c} (h1 : Steps fuel level ty e1 a b) (h2 : Steps fuel level ty e2 b c) :
    Steps fuel level ty (e1 ++ e2) a c := by
  obtain ⟨c1, hc1, h1⟩ := h1
  obtain ⟨c2, hc2, h2⟩ := h2
  refine ⟨c2 + c1, ?_, fun k tail lim hl => ?_⟩
  · rw [List.length_append]
    omega
  · rw [List.length_append] at hl ⊢
    rw [← Nat.add_assoc, List.append_assoc, h1 (k + c2) (e2 ++ tail) lim (by omega), h2 k tail _ (by omega),
      Nat.sub_sub]

theorem step_tagged {fuel level : Nat} {ty : MsgTy} {f : FieldSpec} (hf : f ∈ schema ty) (payload : Bytes)
    {v' : PVal} (acc : PMsg)
    (hread : ∀ tail lim', payload.length ≤ lim' →
      readVal fuel level f.kind ⟨payload ++ tail, lim'⟩ = some (v', ⟨tail, lim' - payload.length⟩)) :
    Steps fuel level ty (writeVarint (tagOf f) ++ payload) acc
      (acc.put f.num (if f.repeated then acc.get f.num ++ [v'] else [v'])) := by
  obtain ⟨hfind, htlt, htag⟩ := schema_facts ty f hf
  have htw := writeVarint_small _ htlt
  have htl : (writeVarint (tagOf f)).length = 1 := by rw [htw]; rfl
  refine ⟨1, by simp [htl], fun k tail lim hl => ?_⟩
  have hl' : 1 + payload.length ≤ lim := by simpa [htl] using hl
  have hvar := In_varint32_write (tagOf f) (by omega) (payload ++ tail) lim (by omega)
  rw [← List.append_assoc] at hvar
  have heof : (⟨writeVarint (tagOf f) ++ payload ++ tail, lim⟩ : In).eof = false := by
    rw [htw]; simp [In.eof]; omega
  rw [loop_known heof hvar htag hfind (hread tail _ (by omega))]
  simp [htl, Nat.sub_sub]

theorem readVal_bytes {fuel level : Nat} (b : Bytes) (hb : b.length < 2 ^ 31) (tail : Bytes) (lim : Nat)
    (hl : (lenDelim b).length ≤ lim) :
    readVal fuel level .bytes ⟨lenDelim b ++ tail, lim⟩ = some (.bytes b, ⟨tail, lim - (lenDelim b).length⟩) := by
  have hl' : (writeVarint b.length).length + b.length ≤ lim := by simpa [lenDelim] using hl
  unfold readVal lenDelim
  simp only
  rw [List.append_assoc, In_varint32_write b.length (by omega) _ lim (by omega)]
  simp only
  rw [In_take_append b tail _ (by omega)]
  simp [Nat.sub_sub]

theorem readVal_uint32 {fuel level : Nat} (n : Nat) (hn : n < 2 ^ 32) (tail : Bytes) (lim : Nat)
    (hl : (writeVarint n).length ≤ lim) :
    readVal fuel level .uint32 ⟨writeVarint n ++ tail, lim⟩ = some (.num n, ⟨tail, lim - (writeVarint n).length⟩) := by
  unfold readVal
  simp only
  rw [In_varint32_write n hn _ lim hl]
  rfl

theorem readVal_uint64 {fuel level : Nat} (n : Nat) (hn : n < 2 ^ 64) (tail : Bytes) (lim : Nat)
    (hl : (writeVarint n).length ≤ lim) :
    readVal fuel level .uint64 ⟨writeVarint n ++ tail, lim⟩ = some (.num n, ⟨tail, lim - (writeVarint n).length⟩) := by
  unfold readVal
  simp only
  rw [In_varint64_write n hn _ lim hl]
  rfl

theorem readVal_msg {fuel level : Nat} {sty : MsgTy} {body : Bytes} {m' : PMsg}
    (hlev : level < 100) (hb : body.length < 2 ^ 31)
    (hparse : ∀ tail, parseMsg fuel (level + 1) sty ⟨body ++ tail, body.length⟩ = some (m', ⟨tail, 0⟩))
    (tail : Bytes) (lim : Nat) (hl : (lenDelim body).length ≤ lim) :
    readVal fuel level (.msg sty) ⟨lenDelim body ++ tail, lim⟩ = some (.msg m', ⟨tail, lim - (lenDelim body).length⟩) := by
  have hl' : (writeVarint body.length).length + body.length ≤ lim := by simpa [lenDelim] using hl
  unfold readVal lenDelim
  have h1 : ¬ level ≥ 100 := by omega
  simp only [h1, if_false]
  rw [List.append_assoc, In_varint64_write body.length (by omega) _ lim (by omega)]
  have h2 : ¬ body.length > lim - (writeVarint body.length).length := by omega
  simp only [h2, if_false, hparse tail, popLimit]
  simp [Nat.sub_sub]

/-- nested messages round-trip: a written `P`-message, read at `level + 1` inside a limit of exactly
its length, is consumed entirely and gives an `E`-related message -/
def NestedRT (P : MsgTy → PMsg → Prop) (E : PMsg → PMsg → Prop) (d fuel level : Nat) : Prop :=
  ∀ sty sub, P sty sub → ∃ m', E m' sub ∧ ∀ tail,
    parseMsg fuel (level + 1) sty ⟨writeMsgF d sty sub ++ tail, (writeMsgF d sty sub).length⟩ = some (m', ⟨tail, 0⟩)

section
variable {P : MsgTy → PMsg → Prop} {E : PMsg → PMsg → Prop} {d fuel level : Nat} {ty : MsgTy}

theorem step_value (hlev : level < 100) (hP : NestedRT P E d fuel level) (f : FieldSpec)
    (hf : f ∈ schema ty) (v : PVal) (hv : ValOK P d v f.kind) (acc : PMsg) :
    ∃ v', ValEqv E v' v ∧
      Steps fuel level ty (encVal d f v) acc (acc.put f.num (if f.repeated then acc.get f.num ++ [v'] else [v'])) := by
  obtain ⟨num, kind, rep⟩ := f
  cases v with
  | bytes b =>
    cases kind <;> simp only [ValOK] at hv
    exact ⟨.bytes b, rfl, step_tagged hf (lenDelim b) acc (readVal_bytes b hv)⟩
  | num n =>
    cases kind <;> simp only [ValOK] at hv
    · exact ⟨.num n, rfl, step_tagged hf (writeVarint n) acc (readVal_uint32 n hv)⟩
    · exact ⟨.num n, rfl, step_tagged hf (writeVarint n) acc (readVal_uint64 n hv)⟩
  | msg sub =>
    cases kind <;> simp only [ValOK] at hv
    rename_i sty
    obtain ⟨m', he, hp⟩ := hP sty sub hv.1
    exact ⟨.msg m', he, step_tagged hf (lenDelim (writeMsgF d sty sub)) acc (readVal_msg hlev hv.2 hp)⟩

/-- all values of one field are appended to what `acc` holds for it: a singular field holds nothing
yet and gets one value at most -/
theorem step_values (hlev : level < 100) (hP : NestedRT P E d fuel level) (f : FieldSpec)
    (hf : f ∈ schema ty) (vs : List PVal) :
    ∀ (acc : PMsg), (∀ v ∈ vs, ValOK P d v f.kind) →
    (f.repeated = false → (acc.get f.num).length + vs.length ≤ 1) →
    ∃ vs', ListRel (ValEqv E) vs' vs ∧ ∃ acc',
      Steps fuel level ty (vs.flatMap (encVal d f)) acc acc' ∧
      (∀ n, n ≠ f.num → acc'.get n = acc.get n) ∧ acc'.get f.num = acc.get f.num ++ vs' := by
  induction vs with
  | nil =>
    intro acc _ _
    exact ⟨[], trivial, acc, Steps.nil, fun _ _ => rfl, (List.append_nil _).symm⟩
  | cons v vs ih =>
    intro acc hok hsing
    obtain ⟨v', hv', hstep⟩ := step_value hlev hP f hf v (hok v List.mem_cons_self) acc
    -- a singular field: nothing before `v`, nothing after
    have h0 : f.repeated = false → (acc.get f.num).length = 0 ∧ vs.length = 0 := fun hr =>
      Nat.eq_zero_of_add_eq_zero (Nat.le_zero.mp (Nat.le_of_succ_le_succ (hsing hr)))
    have hput : (if f.repeated then acc.get f.num ++ [v'] else [v']) = acc.get f.num ++ [v'] := by
      cases hr : f.repeated
      · rw [List.eq_nil_of_length_eq_zero (h0 hr).1]
        rfl
      · rfl
    rw [hput] at hstep
    obtain ⟨vs', hvs', acc', hsteps, hother, hget⟩ := ih (acc.put f.num (acc.get f.num ++ [v']))
      (fun w hw => hok w (List.mem_cons_of_mem _ hw))
      (fun hr => by
        rw [get_put, if_pos rfl, List.length_append, (h0 hr).1, (h0 hr).2]
        exact Nat.le_refl 1)
    refine ⟨v' :: vs', ⟨hv', hvs'⟩, acc', ?_, fun n hn => ?_, ?_⟩
    · rw [List.flatMap_cons]
      exact hstep.append hsteps
    · rw [hother n hn, get_put, if_neg fun h => hn h.symm]
    · rw [hget, get_put, if_pos rfl, List.append_assoc]
      rfl

theorem step_fields {m : PMsg} (hm : FieldsOK P d ty m) (hlev : level < 100)
    (hP : NestedRT P E d fuel level) (fs : List FieldSpec) :
    ∀ (acc : PMsg), (fs.map (·.num)).Nodup → (∀ f ∈ fs, f ∈ schema ty) → (∀ f ∈ fs, acc.get f.num = []) →
    ∃ acc', Steps fuel level ty (fs.flatMap fun f => (m.get f.num).flatMap (encVal d f)) acc acc' ∧
      (∀ n, n ∉ fs.map (·.num) → acc'.get n = acc.get n) ∧
      ∀ f ∈ fs, ListRel (ValEqv E) (acc'.get f.num) (m.get f.num) := by
  induction fs with
  | nil =>
    intro acc _ _ _
    exact ⟨acc, Steps.nil, fun _ _ => rfl, fun _ h => by simp at h⟩
  | cons f fs ih =>
    intro acc hnd hsch hemp
    have hf := hsch f List.mem_cons_self
    obtain ⟨hok, hsing⟩ := hm.field f hf
    have hemp1 := hemp f List.mem_cons_self
    obtain ⟨vs', hvs', acc1, hst1, hoth1, hget1⟩ := step_values hlev hP f hf (m.get f.num) acc hok
      (fun hr => by rw [hemp1]; simpa using hsing hr)
    rw [hemp1, List.nil_append] at hget1
    rw [List.map_cons, List.nodup_cons] at hnd
    obtain ⟨acc', hst2, hoth2, hrel2⟩ := ih acc1 hnd.2 (fun g hg => hsch g (List.mem_cons_of_mem _ hg))
      (fun g hg => by
        have hne : g.num ≠ f.num := fun h => hnd.1 (h ▸ List.mem_map.mpr ⟨g, hg, rfl⟩)
        rw [hoth1 _ hne]
        exact hemp g (List.mem_cons_of_mem _ hg))
    refine ⟨acc', ?_, ?_, ?_⟩
    · rw [List.flatMap_cons]
      exact hst1.append hst2
    · intro n hn
      rw [List.map_cons, List.mem_cons, not_or] at hn
      rw [hoth2 n hn.2, hoth1 n hn.1]
    · intro g hg
      rcases List.mem_cons.mp hg with rfl | hg
      · rw [hoth2 _ hnd.1, hget1]
        exact hvs'
      · exact hrel2 g hg

/-- a written message is read back inside any enclosing stream, if its nested messages are: the loop
stops at the end of the data (`tail = []`) or at the limit -/
theorem parse_fields {m : PMsg} (hm : FieldsOK P d ty m) (hlev : level < 100)
    (hP : NestedRT P E d fuel level) :
    ∃ m', FieldsEqv E m' m ∧ ∀ tail lim, (writeMsgF (d + 1) ty m).length ≤ lim →
      (tail = [] ∨ lim = (writeMsgF (d + 1) ty m).length) →
      parseMsg (fuel + 1) level ty ⟨writeMsgF (d + 1) ty m ++ tail, lim⟩ =
        some (m', ⟨tail, lim - (writeMsgF (d + 1) ty m).length⟩) := by
  obtain ⟨acc', ⟨c, hc, hsteps⟩, hoth, hrel⟩ := step_fields hm hlev hP (schema ty) []
    (schema_nodup ty) (fun _ h => h) (fun _ _ => rfl)
  rw [← writeMsgF_succ] at hsteps hc
  refine ⟨acc', fun n => ?_, fun tail lim hl heof => ?_⟩
  · by_cases hn : n ∈ (schema ty).map (·.num)
    · obtain ⟨f, hf, rfl⟩ := List.mem_map.mp hn
      exact hrel f hf
    · rw [hoth n hn, hm.get_nil n hn]
      exact trivial
  · rw [parseMsg.eq_2]
    simp only
    have hk : (writeMsgF (d + 1) ty m ++ tail).length + 1 =
        ((writeMsgF (d + 1) ty m ++ tail).length + 1 - c) + c := by
      simp only [List.length_append]; omega
    rw [hk, hsteps _ tail lim hl]
    apply loop_eof
    · simp only [List.length_append]; omega
    · rcases heof with h | h <;> simp [In.eof, h]

theorem encVal_length_le (f : FieldSpec) (v : PVal) (hv : ValOK P d v f.kind) :
    (encVal d f v).length ≤ 2 ^ 31 + 20 := by
  have ht := writeVarint_length_le (tagOf f)
  obtain ⟨num, kind, rep⟩ := f
  cases v with
  | bytes b =>
    cases kind <;> simp only [ValOK] at hv
    have := writeVarint_length_le b.length
    simp only [encVal, lenDelim, List.length_append]
    omega
  | num n =>
    have := writeVarint_length_le n
    cases kind <;> simp only [ValOK] at hv <;> simp only [encVal, List.length_append] <;> omega
  | msg sub =>
    cases kind <;> simp only [ValOK] at hv
    rename_i sty
    have := writeVarint_length_le (writeMsgF d sty sub).length
    simp only [encVal, lenDelim, List.length_append]
    omega

theorem writeMsgF_length_singular {m : PMsg} (h : FieldsOK P d ty m)
    (hs : ∀ f ∈ schema ty, f.repeated = false) :
    (writeMsgF (d + 1) ty m).length ≤ (schema ty).length * (2 ^ 31 + 20) := by
  rw [writeMsgF_succ]
  have key : ∀ fs : List FieldSpec, (∀ f ∈ fs, f ∈ schema ty) →
      (fs.flatMap fun f => (m.get f.num).flatMap fun v => encVal d f v).length ≤ fs.length * (2 ^ 31 + 20) := by
    intro fs
    induction fs with
    | nil => intro _; simp
    | cons f fs ih =>
      intro hfs
      have hf := hfs f List.mem_cons_self
      obtain ⟨hok, hsing⟩ := h.field f hf
      have h1 := hsing (hs f hf)
      have h2 := ih (fun g hg => hfs g (List.mem_cons_of_mem _ hg))
      have h3 : ((m.get f.num).flatMap fun v => encVal d f v).length ≤ 2 ^ 31 + 20 := by
        rcases hg : m.get f.num with _ | ⟨v, _ | ⟨w, vs⟩⟩
        · simp
        · have := encVal_length_le f v (hok v (by simp [hg]))
          simpa using this
        · rw [hg] at h1; simp at h1
      rw [List.flatMap_cons, List.length_append, List.length_cons, Nat.add_mul]
      omega
  exact key (schema ty) (fun _ h => h)

end

end Akd.Proto
