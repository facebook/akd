/-
The canonical trie on bit strings: one-at-a-time insertion keeps a trie well-formed and adds
exactly the new leaf; a well-formed trie has pairwise incomparable leaf labels and is determined
by its leaves.
-/
import AkdModel.CTrie
import AkdModel.Lemmas.LabelLex
namespace Akd.Canon
open BitStr (commonPrefix commonPrefix_prefix_left commonPrefix_prefix_right prefix_commonPrefix)

theorem commonPrefix_eq_left_of_length_ge {a b : BitStr} (h : ¬ (commonPrefix a b).length < a.length) :
    commonPrefix a b = a :=
  (commonPrefix_prefix_left a b).eq_of_length_le (Nat.le_of_not_lt h)

theorem commonPrefix_eq_right_of_length_ge {a b : BitStr} (h : ¬ (commonPrefix a b).length < b.length) :
    commonPrefix a b = b :=
  (commonPrefix_prefix_right a b).eq_of_length_le (Nat.le_of_not_lt h)

theorem getElem?_of_snoc_prefix {p a : BitStr} {b : Bool} (h : p ++ [b] <+: a) :
    a[p.length]? = some b := by
  obtain ⟨t, rfl⟩ := h
  simp

theorem snoc_prefix_of_getElem? {p a : BitStr} {b : Bool} (h : p <+: a) (hb : a[p.length]? = some b) :
    p ++ [b] <+: a := by
  obtain ⟨t, rfl⟩ := h
  cases t with
  | nil => simp at hb
  | cons c t =>
    simp at hb
    subst hb
    exact ⟨t, by simp⟩

/-- where the common prefix is a proper prefix of both strings they continue it with different
bits: with the same bit the common prefix would be longer -/
theorem fork_of_commonPrefix_lt (a b : BitStr) (ha : (commonPrefix a b).length < a.length)
    (hb : (commonPrefix a b).length < b.length) :
    ∃ d, commonPrefix a b ++ [!d] <+: a ∧ commonPrefix a b ++ [d] <+: b := by
  have ha' := snoc_prefix_of_getElem? (commonPrefix_prefix_left a b) (List.getElem?_eq_getElem ha)
  have hb' := snoc_prefix_of_getElem? (commonPrefix_prefix_right a b) (List.getElem?_eq_getElem hb)
  have hne : a[(commonPrefix a b).length] ≠ b[(commonPrefix a b).length] := by
    intro e
    have := (prefix_commonPrefix _ a b ha' (e ▸ hb')).length_le
    simp at this
    omega
  exact ⟨_, Bool.eq_not_of_ne hne ▸ ha', hb'⟩

theorem prefix_of_snoc_prefix {p a : BitStr} {b : Bool} (h : p ++ [b] <+: a) : p <+: a :=
  (List.prefix_append p [b]).trans h

theorem snoc_prefix_inj {p a : BitStr} {b b' : Bool} (h : p ++ [b] <+: a) (h' : p ++ [b'] <+: a) : b = b' :=
  Option.some.inj ((getElem?_of_snoc_prefix h).symm.trans (getElem?_of_snoc_prefix h'))

theorem snoc_prefix_incomparable {p a b : BitStr} (ha : p ++ [false] <+: a) (hb : p ++ [true] <+: b) :
    ¬ a <+: b ∧ ¬ b <+: a :=
  ⟨fun h => Bool.false_ne_true (snoc_prefix_inj (ha.trans h) hb),
    fun h => Bool.false_ne_true (snoc_prefix_inj ha (hb.trans h))⟩

theorem commonPrefix_fork (q a b : BitStr) (ha : q ++ [false] <+: a) (hb : q ++ [true] <+: b) :
    commonPrefix a b = q := by
  obtain ⟨s, rfl⟩ := ha
  obtain ⟨t, rfl⟩ := hb
  induction q with
  | nil => simp [commonPrefix]
  | cons x q ih => simpa [commonPrefix] using ih

theorem perm_append_split {α β : Type} [DecidableEq β] (key : α → β) {u v : β} (huv : v ≠ u)
    {l₁ r₁ l₂ r₂ : List α}
    (h₁ : (∀ x ∈ l₁, key x = u) ∧ (∀ x ∈ r₁, key x = v)) (h₂ : (∀ x ∈ l₂, key x = u) ∧ (∀ x ∈ r₂, key x = v))
    (hp : (l₁ ++ r₁).Perm (l₂ ++ r₂)) : l₁.Perm l₂ ∧ r₁.Perm r₂ := by
  have split : ∀ {l r : List α}, (∀ x ∈ l, key x = u) ∧ (∀ x ∈ r, key x = v) →
      (l ++ r).filter (key · == u) = l ∧ (l ++ r).filter (key · == v) = r := by
    intro l r h
    rw [List.filter_append, List.filter_append,
      List.filter_eq_self.2 (fun x hx => by simp [h.1 x hx]),
      List.filter_eq_nil_iff.2 (fun x hx => by simp [h.2 x hx, huv]),
      List.filter_eq_nil_iff.2 (fun x hx => by simp [h.1 x hx, huv.symm]),
      List.filter_eq_self.2 (fun x hx => by simp [h.2 x hx])]
    simp
  obtain ⟨el₁, er₁⟩ := split h₁
  obtain ⟨el₂, er₂⟩ := split h₂
  exact ⟨by simpa only [el₁, el₂] using hp.filter (key · == u),
    by simpa only [er₁, er₂] using hp.filter (key · == v)⟩

def Incomp (a b : Leaf) : Prop := ¬ a.lbl <+: b.lbl ∧ ¬ b.lbl <+: a.lbl

theorem Incomp.symm {a b : Leaf} (h : Incomp a b) : Incomp b a := ⟨h.2, h.1⟩

namespace Tree
open CTree

theorem leaves_ne_nil : ∀ t : CTree, t.leaves ≠ []
  | leaf _ _ _ => by simp [leaves]
  | node _ l r => by simp [leaves, leaves_ne_nil l]

theorem exists_mem_leaves (t : CTree) : ∃ lf, lf ∈ t.leaves :=
  List.exists_mem_of_ne_nil _ (leaves_ne_nil t)

theorem lbl_prefix : ∀ {t : CTree}, t.WF → ∀ lf ∈ t.leaves, t.lbl <+: lf.lbl
  | leaf _ _ _, _, lf, h => by
    simp [leaves] at h; subst h; exact List.prefix_refl _
  | node q l r, hwf, lf, h => by
    obtain ⟨hl, hr, wl, wr⟩ := hwf
    simp only [leaves, List.mem_append] at h
    rcases h with h | h
    · exact (prefix_of_snoc_prefix hl).trans (lbl_prefix wl lf h)
    · exact (prefix_of_snoc_prefix hr).trans (lbl_prefix wr lf h)

theorem lbl_length_le {t : CTree} {n : Nat} (hwf : t.WF) (hl : ∀ lf ∈ t.leaves, lf.lbl.length ≤ n) :
    t.lbl.length ≤ n := by
  obtain ⟨lf, h⟩ := exists_mem_leaves t
  exact Nat.le_trans (lbl_prefix hwf lf h).length_le (hl lf h)

theorem getElem?_leaves_node {q : BitStr} {l r : CTree} (hwf : (node q l r).WF) :
    (∀ lf ∈ l.leaves, lf.lbl[q.length]? = some false) ∧ (∀ lf ∈ r.leaves, lf.lbl[q.length]? = some true) :=
  ⟨fun lf h => getElem?_of_snoc_prefix (hwf.1.trans (lbl_prefix hwf.2.2.1 lf h)),
    fun lf h => getElem?_of_snoc_prefix (hwf.2.1.trans (lbl_prefix hwf.2.2.2 lf h))⟩

theorem split_spec (p : BitStr) (a b : CTree) (ha : a.WF) (hb : b.WF) {d : Bool}
    (hpa : p ++ [!d] <+: a.lbl) (hpb : p ++ [d] <+: b.lbl) :
    (split p a b).WF ∧ (split p a b).lbl = p ∧ (split p a b).leaves.Perm (b.leaves ++ a.leaves) := by
  unfold split
  rw [getElem?_of_snoc_prefix hpb]
  cases d
  · exact ⟨⟨hpb, hpa, hb, ha⟩, rfl, .refl _⟩
  · exact ⟨⟨hpa, hpb, ha, hb⟩, rfl, List.perm_append_comm⟩

theorem commonPrefix_lt_of_incomp {x : Leaf} {t : CTree} (hwf : t.WF) (hf : ∀ lf ∈ t.leaves, Incomp x lf) :
    (commonPrefix t.lbl x.lbl).length < x.lbl.length := by
  obtain ⟨lf, hlf⟩ := exists_mem_leaves t
  refine Nat.lt_of_not_le fun h => (hf lf hlf).1 (.trans ?_ (lbl_prefix hwf lf hlf))
  exact commonPrefix_eq_right_of_length_ge (Nat.not_lt.2 h) ▸ commonPrefix_prefix_left t.lbl x.lbl

theorem insert1_fork (x : Leaf) (t : CTree) (hwf : t.WF) (hf : ∀ lf ∈ t.leaves, Incomp x lf)
    (h1 : (commonPrefix t.lbl x.lbl).length < t.lbl.length) :
    (t.insert1 x).WF ∧ (t.insert1 x).lbl = commonPrefix t.lbl x.lbl ∧
      (t.insert1 x).leaves.Perm (x :: t.leaves) := by
  have h2 := commonPrefix_lt_of_incomp hwf hf
  have e : t.insert1 x = split (commonPrefix t.lbl x.lbl) t (leaf x.lbl x.value x.ep) := by
    cases t <;> simp only [lbl] at h1 h2 <;> simp [insert1, lbl, h1, h2]
  obtain ⟨d, hpt, hpx⟩ := fork_of_commonPrefix_lt _ _ h1 h2
  rw [e]
  exact split_spec _ t _ hwf trivial hpt hpx

theorem insert1_spec (x : Leaf) (t : CTree) (hwf : t.WF) (hf : ∀ lf ∈ t.leaves, Incomp x lf) :
    (t.insert1 x).WF ∧ (t.insert1 x).lbl = commonPrefix t.lbl x.lbl ∧
      (t.insert1 x).leaves.Perm (x :: t.leaves) := by
  induction t with
  | leaf q v e =>
    refine insert1_fork x _ hwf hf (Decidable.by_contra fun h => (hf ⟨q, v, e⟩ (by simp [leaves])).2 ?_)
    exact commonPrefix_eq_left_of_length_ge (a := q) h ▸ commonPrefix_prefix_right q x.lbl
  | node q l r ihl ihr =>
    by_cases h1 : (commonPrefix q x.lbl).length < q.length
    · exact insert1_fork x _ hwf hf h1
    · -- `q` is a prefix of the new label: descend to the side of its next bit
      have hcp := commonPrefix_eq_left_of_length_ge h1
      have h2 := commonPrefix_lt_of_incomp hwf hf
      simp only [lbl, hcp] at h2
      have hxb := List.getElem?_eq_getElem h2
      have hqx := snoc_prefix_of_getElem? (hcp ▸ commonPrefix_prefix_right q x.lbl) hxb
      obtain ⟨hl, hr, wl, wr⟩ := hwf
      simp only [insert1, h1, if_false, hxb]
      cases hb : x.lbl[q.length] <;> rw [hb] at hqx <;> simp only
      · have ih := ihl wl (fun lf h => hf lf (by simp [leaves, h]))
        exact ⟨⟨ih.2.1 ▸ prefix_commonPrefix _ _ _ hl hqx, hr, ih.1, wr⟩, hcp.symm, ih.2.2.append_right _⟩
      · have ih := ihr wr (fun lf h => hf lf (by simp [leaves, h]))
        exact ⟨⟨hl, ih.2.1 ▸ prefix_commonPrefix _ _ _ hr hqx, wl, ih.1⟩, hcp.symm,
          (ih.2.2.append_left _).trans List.perm_middle⟩

theorem pairwise : ∀ {t : CTree}, t.WF → t.leaves.Pairwise Incomp
  | leaf _ _ _, _ => by simp [leaves]
  | node q l r, hwf => by
    obtain ⟨hl, hr, wl, wr⟩ := hwf
    simp only [leaves]
    rw [List.pairwise_append]
    refine ⟨pairwise wl, pairwise wr, fun a ha b hb => ?_⟩
    exact snoc_prefix_incomparable (hl.trans (lbl_prefix wl a ha)) (hr.trans (lbl_prefix wr b hb))

/-- in a well-formed node, the label is the longest common prefix of the leaf labels -/
theorem prefix_node_lbl {q : BitStr} {l r : CTree} (hwf : (node q l r).WF) {p : BitStr}
    (hp : ∀ lf ∈ (node q l r).leaves, p <+: lf.lbl) : p <+: q := by
  obtain ⟨hl, hr, wl, wr⟩ := hwf
  obtain ⟨a, ha⟩ := exists_mem_leaves l
  obtain ⟨b, hb⟩ := exists_mem_leaves r
  rw [← commonPrefix_fork q a.lbl b.lbl (hl.trans (lbl_prefix wl a ha)) (hr.trans (lbl_prefix wr b hb))]
  exact prefix_commonPrefix _ _ _ (hp a (by simp [leaves, ha])) (hp b (by simp [leaves, hb]))

theorem length_leaves_node (q : BitStr) (l r : CTree) : 2 ≤ (node q l r).leaves.length := by
  have := List.length_pos_iff.2 (leaves_ne_nil l)
  have := List.length_pos_iff.2 (leaves_ne_nil r)
  simp [leaves]; omega

theorem wf_unique : ∀ (t₁ t₂ : CTree), t₁.WF → t₂.WF → t₁.leaves.Perm t₂.leaves → t₁ = t₂
  | leaf q v e, leaf q' v' e', _, _, hp => by
    simp [leaves] at hp
    simp [hp]
  | leaf q v e, node q' l' r', _, _, hp => by
    have := hp.length_eq
    have := length_leaves_node q' l' r'
    simp [leaves] at *; omega
  | node q l r, leaf q' v' e', _, _, hp => by
    have := hp.length_eq
    have := length_leaves_node q l r
    simp [leaves] at *; omega
  | node q l r, node q' l' r', h₁, h₂, hp => by
    -- each label is the longest common prefix of the same leaf labels; the bit after it splits the leaves
    have h : q <+: q' ∧ q' <+: q :=
      ⟨prefix_node_lbl h₂ (fun lf h => lbl_prefix h₁ lf (hp.mem_iff.2 h)),
        prefix_node_lbl h₁ (fun lf h => lbl_prefix h₂ lf (hp.mem_iff.1 h))⟩
    cases h.1.eq_of_length_le h.2.length_le
    obtain ⟨pl, pr⟩ := perm_append_split (fun lf : Leaf => lf.lbl[q.length]?) (by simp)
      (getElem?_leaves_node h₁) (getElem?_leaves_node h₂) hp
    rw [wf_unique l l' h₁.2.2.1 h₂.2.2.1 pl, wf_unique r r' h₁.2.2.2 h₂.2.2.2 pr]

end Tree

namespace Root
open CRoot

theorem prefix_of_mem_slot {b : Bool} {o : Option CTree} (hwf : ∀ a, o = some a → [b] <+: a.lbl ∧ a.WF)
    {lf : Leaf} (h : lf ∈ (o.map CTree.leaves).getD []) : [b] <+: lf.lbl := by
  cases o with
  | none => simp at h
  | some a => exact (hwf a rfl).1.trans (Tree.lbl_prefix (hwf a rfl).2 lf h)

theorem getElem?_leaves {t : CRoot} (hwf : t.WF) :
    (∀ lf ∈ (t.l.map CTree.leaves).getD [], lf.lbl[0]? = some false) ∧
    (∀ lf ∈ (t.r.map CTree.leaves).getD [], lf.lbl[0]? = some true) :=
  ⟨fun _ h => getElem?_of_snoc_prefix (p := []) (prefix_of_mem_slot hwf.1 h),
    fun _ h => getElem?_of_snoc_prefix (p := []) (prefix_of_mem_slot hwf.2 h)⟩

theorem insert1_slot {b : Bool} {o : Option CTree} (x : Leaf) {a' : CTree}
    (ha' : a' = match o with | none => .leaf x.lbl x.value x.ep | some a => a.insert1 x)
    (hwf : ∀ a, o = some a → [b] <+: a.lbl ∧ a.WF) (hx : [b] <+: x.lbl)
    (hf : ∀ lf ∈ (o.map CTree.leaves).getD [], Incomp x lf) :
    ([b] <+: a'.lbl ∧ a'.WF) ∧ a'.leaves.Perm (x :: (o.map CTree.leaves).getD []) := by
  subst ha'
  cases o with
  | none => exact ⟨⟨hx, trivial⟩, .refl _⟩
  | some a =>
    have ih := Tree.insert1_spec x a (hwf a rfl).2 hf
    exact ⟨⟨ih.2.1 ▸ prefix_commonPrefix _ _ _ (hwf a rfl).1 hx, ih.1⟩, ih.2.2⟩

theorem insert1_spec (t : CRoot) (x : Leaf) (hwf : t.WF) (hne : x.lbl ≠ [])
    (hf : ∀ lf ∈ t.leaves, Incomp x lf) :
    (t.insert1 x).WF ∧ (t.insert1 x).leaves.Perm (x :: t.leaves) := by
  unfold insert1
  split
  · next h => exact absurd h hne
  · next xs h =>
    have s := insert1_slot x rfl hwf.1 (by simp [h]) (fun lf hl => hf lf (List.mem_append_left _ hl))
    exact ⟨⟨fun _ e => Option.some.inj e ▸ s.1, hwf.2⟩, s.2.append_right _⟩
  · next xs h =>
    have s := insert1_slot x rfl hwf.2 (by simp [h]) (fun lf hl => hf lf (List.mem_append_right _ hl))
    exact ⟨⟨hwf.1, fun _ e => Option.some.inj e ▸ s.1⟩, (s.2.append_left _).trans List.perm_middle⟩

theorem pairwise {t : CRoot} (hwf : t.WF) : t.leaves.Pairwise Incomp := by
  have slot : ∀ {b : Bool} {o : Option CTree}, (∀ a, o = some a → [b] <+: a.lbl ∧ a.WF) →
      ((o.map CTree.leaves).getD []).Pairwise Incomp := by
    intro b o h
    cases o with
    | none => exact .nil
    | some a => exact Tree.pairwise (h a rfl).2
  exact List.pairwise_append.2 ⟨slot hwf.1, slot hwf.2, fun _ ha _ hb =>
    snoc_prefix_incomparable (p := []) (prefix_of_mem_slot hwf.1 ha) (prefix_of_mem_slot hwf.2 hb)⟩

theorem child_unique {b : Bool} {o₁ o₂ : Option CTree} (h₁ : ∀ a, o₁ = some a → [b] <+: a.lbl ∧ a.WF)
    (h₂ : ∀ a, o₂ = some a → [b] <+: a.lbl ∧ a.WF)
    (hp : ((o₁.map CTree.leaves).getD []).Perm ((o₂.map CTree.leaves).getD [])) : o₁ = o₂ := by
  cases o₁ with
  | none =>
    cases o₂ with
    | none => rfl
    | some b => simp at hp; exact absurd hp (Tree.leaves_ne_nil b)
  | some a =>
    cases o₂ with
    | none => simp at hp; exact absurd hp (Tree.leaves_ne_nil a)
    | some b => rw [Tree.wf_unique a b (h₁ a rfl).2 (h₂ b rfl).2 (by simpa using hp)]

theorem wf_unique (t₁ t₂ : CRoot) (h₁ : t₁.WF) (h₂ : t₂.WF) (hp : t₁.leaves.Perm t₂.leaves) : t₁ = t₂ := by
  obtain ⟨pl, pr⟩ := perm_append_split (fun lf : Leaf => lf.lbl[0]?) (by simp)
    (getElem?_leaves h₁) (getElem?_leaves h₂) hp
  have hl := child_unique h₁.1 h₂.1 pl
  have hr := child_unique h₁.2 h₂.2 pr
  cases t₁; cases t₂; simp_all

theorem foldl_insert1_spec : ∀ (xs : List Leaf) (t : CRoot), t.WF →
    (t.leaves ++ xs).Pairwise Incomp → (∀ x ∈ xs, x.lbl ≠ []) →
    (xs.foldl insert1 t).WF ∧ (xs.foldl insert1 t).leaves.Perm (t.leaves ++ xs)
  | [], t, hwf, _, _ => ⟨hwf, by simp⟩
  | x :: xs, t, hwf, hpw, hne => by
    have hx : ∀ lf ∈ t.leaves, Incomp x lf := by
      rw [List.pairwise_append] at hpw
      intro lf h; exact (hpw.2.2 lf h x (by simp)).symm
    have s := insert1_spec t x hwf (hne x (by simp)) hx
    have hperm : ((t.insert1 x).leaves ++ xs).Perm (t.leaves ++ x :: xs) :=
      (s.2.append_right xs).trans List.perm_middle.symm
    have ih := foldl_insert1_spec xs (t.insert1 x) s.1
      ((hperm.pairwise_iff Incomp.symm).2 hpw) (fun y hy => hne y (by simp [hy]))
    exact ⟨ih.1, ih.2.trans hperm⟩

theorem empty_wf : empty.WF := by simp [empty, WF]

theorem ofLeaves_spec (xs : List Leaf) (hpf : xs.Pairwise Incomp) (hne : ∀ x ∈ xs, x.lbl ≠ []) :
    (ofLeaves xs).WF ∧ (ofLeaves xs).leaves.Perm xs := by
  simpa [ofLeaves, empty, leaves] using foldl_insert1_spec xs empty empty_wf (by simpa [empty, leaves] using hpf) hne

end Root

end Akd.Canon
