/-
Varints: both readers invert the canonical writer (one lemma about their common loop), the writer's
length, and the limited input stream (`In`) on written data.
-/
import AkdModel.Proto
namespace Akd.Proto

theorem and_127 (n : Nat) : n &&& 127 = n % 128 := Nat.and_two_pow_sub_one_eq_mod n 7

/-- one step of the reader's accumulator: the low seven bits now, the rest one position further up -/
theorem acc_step (acc n i : Nat) :
    acc ||| (n &&& 127) <<< (7 * i) ||| (n >>> 7) <<< (7 * (i + 1)) = acc ||| n <<< (7 * i) := by
  have h : (n >>> 7) <<< 7 ||| n &&& 127 = n := by
    rw [and_127, ← Nat.shiftLeft_add_eq_or_of_lt (Nat.mod_lt _ (by decide)), Nat.shiftLeft_eq,
      Nat.shiftRight_eq_div_pow]
    exact Nat.div_add_mod' n 128
  rw [Nat.mul_add, Nat.add_comm, Nat.shiftLeft_add, Nat.or_assoc, ← Nat.shiftLeft_or_distrib,
    Nat.or_comm (n &&& 127), h]

theorem contByte_toNat (n : Nat) : (UInt8.ofNat ((n &&& 127) ||| 128)).toNat = n % 128 + 128 := by
  rw [and_127, Nat.or_two_pow_eq_add_of_lt (n := 7) (Nat.mod_lt _ (by decide)), UInt8.toNat_ofNat']
  exact Nat.mod_eq_of_lt (Nat.add_lt_add_right (Nat.mod_lt n (by decide)) 128)

theorem writeVarint_go_succ (n fw : Nat) :
    writeVarint.go n (fw + 1) =
      if n < 128 then [UInt8.ofNat n] else UInt8.ofNat ((n &&& 127) ||| 128) :: writeVarint.go (n >>> 7) fw := rfl

/-- `readVarint64.go` and `readVarint32.go` are the same loop `go` with a different index `last` of the
final byte and a different bound `cap` on it (9, 1 and 4, 15); `r` counts the bytes that may still
follow the current one, and reader and writer have fuel for them. -/
theorem readGo_write {go : Nat → Nat → Bytes → Nat → Option (Nat × Bytes)} {last cap : Nat}
    (hgo : ∀ i acc b rest fuel, go i acc (b :: rest) (fuel + 1) =
      if i = last then
        if b.toNat > cap then none else some (acc ||| (b.toNat <<< (7 * i)), rest)
      else if b.toNat < 128 then some (acc ||| ((b.toNat &&& 127) <<< (7 * i)), rest)
      else go (i + 1) (acc ||| ((b.toNat &&& 127) <<< (7 * i))) rest fuel)
    (hcap : cap < 128) (rest : Bytes) (r : Nat) :
    ∀ i acc n k kw, i + r = last → n < 2 ^ (7 * r) * (cap + 1) →
      go i acc (writeVarint.go n (r + kw + 1) ++ rest) (r + k + 1) = some (acc ||| n <<< (7 * i), rest) := by
  -- by induction on the number of bytes that may still follow: a continuation byte carries `n % 128` and
  -- leaves `n >>> 7` to the bytes after it, and `acc_step` puts the two together again
  induction r with
  | zero =>
    intro i acc n k kw hi hn
    have hn : n < cap + 1 := by simpa using hn
    rw [writeVarint_go_succ, if_pos (by omega), List.singleton_append, hgo, if_pos (by omega),
      UInt8.toNat_ofNat', Nat.mod_eq_of_lt (by omega), if_neg (by omega)]
  | succ r ih =>
    intro i acc n k kw hi hn
    rw [writeVarint_go_succ]
    by_cases hn128 : n < 128
    · rw [if_pos hn128, List.singleton_append, hgo, if_neg (by omega), UInt8.toNat_ofNat',
        Nat.mod_eq_of_lt (by omega), if_pos hn128, and_127, Nat.mod_eq_of_lt hn128]
    · rw [if_neg hn128, List.cons_append, hgo, if_neg (by omega), contByte_toNat, if_neg (by omega),
        Nat.add_right_comm r 1 kw, Nat.add_right_comm r 1 k, ih (i + 1) _ (n >>> 7) k kw (by omega),
        and_127, Nat.add_mod_right, Nat.mod_mod, ← and_127, acc_step]
      rw [Nat.shiftRight_eq_div_pow]
      apply (Nat.div_lt_iff_lt_mul (by decide)).mpr
      rwa [Nat.mul_add 7 r 1, Nat.pow_add, Nat.mul_right_comm] at hn

theorem readVarint64_write (n : Nat) (h : n < 2 ^ 64) (rest : Bytes) :
    readVarint64 (writeVarint n ++ rest) = some (n, rest) := by
  have := readGo_write (go := readVarint64.go) (last := 9) (cap := 1) (fun _ _ _ _ _ => rfl) (by decide)
    rest 9 0 0 n 0 0 rfl h
  simpa [readVarint64, writeVarint] using this

theorem readVarint32_write (n : Nat) (h : n < 2 ^ 32) (rest : Bytes) :
    readVarint32 (writeVarint n ++ rest) = some (n, rest) := by
  have := readGo_write (go := readVarint32.go) (last := 4) (cap := 15) (fun _ _ _ _ _ => rfl) (by decide)
    rest 4 0 0 n 0 5 rfl h
  simpa [readVarint32, writeVarint] using this

theorem writeVarint_length_pos (n : Nat) : 1 ≤ (writeVarint n).length := by
  unfold writeVarint
  rw [writeVarint_go_succ]
  split <;> simp

theorem writeVarint_go_length_le (fw : Nat) : ∀ n, (writeVarint.go n fw).length ≤ fw := by
  induction fw with
  | zero => intro n; simp [writeVarint.go]
  | succ fw ih =>
    intro n
    rw [writeVarint_go_succ]
    split
    · simp
    · have := ih (n >>> 7)
      simp only [List.length_cons]; omega

theorem writeVarint_length_le (n : Nat) : (writeVarint n).length ≤ 10 :=
  writeVarint_go_length_le 10 n

theorem writeVarint_small (n : Nat) (h : n < 128) : writeVarint n = [UInt8.ofNat n] := by
  unfold writeVarint
  rw [writeVarint_go_succ, if_pos h]

theorem visible_append (w rest : Bytes) (lim : Nat) (h : w.length ≤ lim) :
    (⟨w ++ rest, lim⟩ : In).visible = w ++ rest.take (lim - w.length) := by
  simp only [In.visible]
  rw [List.take_append, List.take_of_length_le h]

theorem In_varint32_write (n : Nat) (hn : n < 2 ^ 32) (rest : Bytes) (lim : Nat)
    (h : (writeVarint n).length ≤ lim) :
    (⟨writeVarint n ++ rest, lim⟩ : In).varint32 = some (n, ⟨rest, lim - (writeVarint n).length⟩) := by
  unfold In.varint32
  rw [visible_append _ _ _ h, readVarint32_write n hn]
  simp

theorem In_varint64_write (n : Nat) (hn : n < 2 ^ 64) (rest : Bytes) (lim : Nat)
    (h : (writeVarint n).length ≤ lim) :
    (⟨writeVarint n ++ rest, lim⟩ : In).varint64 = some (n, ⟨rest, lim - (writeVarint n).length⟩) := by
  unfold In.varint64
  rw [visible_append _ _ _ h, readVarint64_write n hn]
  simp

theorem In_take_append (b rest : Bytes) (lim : Nat) (h : b.length ≤ lim) :
    (⟨b ++ rest, lim⟩ : In).take b.length = some (b, ⟨rest, lim - b.length⟩) := by
  unfold In.take
  have h1 : ¬ (b.length > lim) := by omega
  simp [h1]

end Akd.Proto
