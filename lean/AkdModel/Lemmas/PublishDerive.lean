/-
Directory side of the publish theorem (C01c): the value-state table against the specification's
version table — `stateLeq` finds the last version, `deriveUpdates` produces exactly the leaves
the specification's changes call for, `setState` appends the new states.
-/
import AkdModel.Lemmas.DirStates
import AkdModel.Lemmas.PublishLeaves
namespace Akd.C01
open Akd

/-- the value-state table holds exactly the specification's versions -/
def StatesMatch (d : Dir) (sp : Spec.State) : Prop :=
  (∀ s ∈ d.states, ∃ v ∈ sp.table.get s.username,
      v.version = s.version ∧ v.epoch = s.epoch ∧ v.value = s.value ∧
      d.vrf.get? ⟨s.username, true, s.version⟩ = some s.label) ∧
  (∀ u v, v ∈ sp.table.get u → ∃ s ∈ d.states,
      s.username = u ∧ s.version = v.version ∧ s.epoch = v.epoch ∧ s.value = v.value) ∧
  d.states.Pairwise (fun a b => ¬ (a.username = b.username ∧ a.epoch = b.epoch))

end Akd.C01

namespace Akd.Pub
open Akd Spec C01

theorem stateLeq_none (d : Dir) (sp : State) (E : Nat) (hm : StatesMatch d sp) (u : Bytes)
    (h : sp.table.get u = []) : d.stateLeq u E = none := by
  rcases Dir.stateLeq_cases d u E with ⟨h', _⟩ | ⟨st, _, hs, hp, _⟩
  · exact h'
  · obtain ⟨v, hv, _⟩ := hm.1 st hs
    rw [hp.1, h] at hv
    cases hv

theorem stateLeq_some (d : Dir) (sp : State) (E : Nat) (hm : StatesMatch d sp) (u : Bytes)
    (hv : VersOK (sp.table.get u)) (hE : ∀ v ∈ sp.table.get u, v.epoch ≤ E) (last : Ver)
    (h : (sp.table.get u).getLast? = some last) :
    ∃ st, d.stateLeq u E = some st ∧ st.username = u ∧ st.version = last.version ∧ st.value = last.value ∧
      st.epoch = last.epoch := by
  obtain ⟨init, hinit⟩ := List.getLast?_eq_some_iff.1 h
  have hlast : last ∈ sp.table.get u := by rw [hinit]; simp
  -- the state of the last version is a candidate
  obtain ⟨s0, hs0, hs0u, _, hs0e, _⟩ := hm.2.1 u last hlast
  have hs0p : s0.username = u ∧ s0.epoch ≤ E := ⟨hs0u, hs0e ▸ hE last hlast⟩
  rcases Dir.stateLeq_cases d u E with ⟨_, hno⟩ | ⟨b, hb, hbs, hbp, hmax⟩
  · exact absurd hs0p (hno s0 hs0)
  · refine ⟨b, hb, hbp.1, ?_⟩
    obtain ⟨v, hvm, hvv, hve, hvval, _⟩ := hm.1 b hbs
    rw [hbp.1] at hvm
    have hle : last.epoch ≤ v.epoch := by have := hmax s0 hs0 hs0p; omega
    -- so the state picked is that of the last version too
    have hvl : v = last := by
      rw [hinit] at hvm hv
      rcases List.mem_append.1 hvm with hvi | hvi
      · have := (versOK_concat hv).2.2 v hvi; omega
      · simpa using hvi
    subst hvl
    exact ⟨hvv.symm, hvval.symm, hve.symm⟩

/-- the value state of a change -/
def mkState (vrf : VrfTable) (T : Table) (e : Nat) (x : Bytes × Bytes) : ValueState :=
  ⟨x.1, e, (T.get x.1).length + 1, (vrf.get? ⟨x.1, true, (T.get x.1).length + 1⟩).getD default, x.2⟩

theorem derive_spec (c : Cfg) (d : Dir) (sp : State) (hm : StatesMatch d sp)
    (hT : TableOK sp.table sp.epoch)
    (hlen : ∀ k l, d.vrf.get? k = some l → l.len = 256) :
    ∀ (b : List (Bytes × Bytes)),
    (∀ x ∈ b, ∀ f ver, 1 ≤ ver → ver ≤ (sp.table.get x.1).length + 1 → (d.vrf.get? ⟨x.1, f, ver⟩).isSome) →
    ∃ els' : List (BitStr × Dig),
      d.deriveUpdates c sp.epoch b = .ok (els'.map (fun x => (NodeLabel.ofBits x.1, x.2)),
        (b.filter (isChange sp.table)).map (mkState d.vrf sp.table (sp.epoch + 1))) ∧
      C01.newLeaves els' (sp.epoch + 1) = (b.filter (isChange sp.table)).flatMap
        (fun x => delta c d.commitmentKey d.vrf x.1 (sp.table.get x.1).length x.2 (sp.epoch + 1)) ∧
      (els' = [] ↔ b.filter (isChange sp.table) = [])
  | [], _ => ⟨[], rfl, rfl, by simp⟩
  | (u, v) :: rest, htot => by
    -- along the recursion of `deriveUpdates`; for the pair `(u, v)`: a new label gives the fresh leaf of version 1,
    -- an unchanged value gives nothing, a changed value gives the stale leaf of the last version and the fresh leaf
    -- of the next; in each case that is `delta`, and the state written is `mkState`
    obtain ⟨els', h1, h2, h3⟩ := derive_spec c d sp hm hT hlen rest
      (fun x hx => htot x (List.mem_cons_of_mem _ hx))
    have htu : ∀ f ver, 1 ≤ ver → ver ≤ (sp.table.get u).length + 1 → (d.vrf.get? ⟨u, f, ver⟩).isSome :=
      htot (u, v) List.mem_cons_self
    rw [Dir.deriveUpdates]
    simp only [h1, bind, Except.bind, pure, Except.pure]
    cases hl : (sp.table.get u).getLast? with
    | none =>
      have hnil : sp.table.get u = [] := List.getLast?_eq_none_iff.1 hl
      have hch : isChange sp.table (u, v) = true := by simp [isChange, hl]
      rw [stateLeq_none d sp sp.epoch hm u hnil]
      have hs := htu true 1 (Nat.le_refl _) (by omega)
      obtain ⟨l, hl1⟩ := Option.isSome_iff_exists.1 hs
      simp only [Dir.vrfLabel, hl1]
      refine ⟨(l.bits, c.commit v (c.nonce d.commitmentKey l 1 v)) :: els', ?_, ?_, ?_⟩
      · simp only [List.map_cons, List.filter_cons, hch, if_true, Snd.ofBits_bits_256 l (hlen _ _ hl1)]
        simp [mkState, hnil, hl1]
      · simp only [List.filter_cons, hch, if_true, List.flatMap_cons, ← h2]
        simp [C01.newLeaves, delta, staleNew, freshNew, hnil, hl1]
      · simp [hch]
    | some last =>
      obtain ⟨st, hst, _, hsv, hsval, _⟩ := stateLeq_some d sp sp.epoch hm u (hT.vers u)
        (fun w hw => (hT.eps u w hw).2) last hl
      have hlv := versOK_last (hT.vers u) hl
      rw [hst]
      simp only
      by_cases hval : st.value = v
      · have hch : isChange sp.table (u, v) = false := by simp [isChange, hl, ← hsval, hval]
        rw [if_pos hval]
        refine ⟨els', ?_, ?_, ?_⟩
        · simp [hch]
        · simp [hch, h2]
        · simp [hch, h3]
      · have hch : isChange sp.table (u, v) = true := by simp [isChange, hl, ← hsval, hval]
        rw [if_neg hval]
        have hpos : 1 ≤ (sp.table.get u).length :=
          hlv ▸ (C06.VersionsOK.version_le (hT.vers u) (List.mem_of_getLast? hl)).1
        rw [hsv, hlv]
        obtain ⟨ls, hls⟩ := Option.isSome_iff_exists.1 (htu false _ hpos (Nat.le_succ _))
        obtain ⟨lf, hlf⟩ := Option.isSome_iff_exists.1 (htu true _ (Nat.le_add_left 1 _) (Nat.le_refl _))
        simp only [Dir.vrfLabel, hls, hlf]
        refine ⟨(ls.bits, c.staleValue) ::
          (lf.bits, c.commit v (c.nonce d.commitmentKey lf ((sp.table.get u).length + 1) v)) :: els', ?_, ?_, ?_⟩
        · simp only [List.map_cons, List.filter_cons, hch, if_true, Snd.ofBits_bits_256 ls (hlen _ _ hls),
            Snd.ofBits_bits_256 lf (hlen _ _ hlf)]
          simp [mkState, hlf]
        · simp only [List.filter_cons, hch, if_true, List.flatMap_cons, ← h2]
          have hne : (sp.table.get u).length ≠ 0 := by omega
          simp [C01.newLeaves, delta, staleNew, freshNew, hls, hlf, hne]
        · simp [hch]

theorem states_fold (d : Dir) (sp : State) (hT : TableOK sp.table sp.epoch) (hm : StatesMatch d sp)
    (ch : List (Bytes × Bytes)) (hnd : (ch.map (·.1)).Nodup)
    (hsome : ∀ x ∈ ch, (d.vrf.get? ⟨x.1, true, (sp.table.get x.1).length + 1⟩).isSome) :
    (ch.map (mkState d.vrf sp.table (sp.epoch + 1))).foldl Dir.setState d.states =
      d.states ++ ch.map (mkState d.vrf sp.table (sp.epoch + 1)) ∧
    StatesMatch { d with states := d.states ++ ch.map (mkState d.vrf sp.table (sp.epoch + 1)) }
      ⟨sp.epoch + 1, ch.foldl (step (sp.epoch + 1)) sp.table⟩ := by
  -- the new states are of the new epoch and of distinct labels
  have hold : ∀ s ∈ d.states, ∀ w ∈ ch.map (mkState d.vrf sp.table (sp.epoch + 1)),
      ¬ (s.username = w.username ∧ s.epoch = w.epoch) := by
    intro s hs w hw h
    obtain ⟨x, _, rfl⟩ := List.mem_map.1 hw
    obtain ⟨v, hvm, _, he, _⟩ := hm.1 s hs
    have := (hT.eps _ v hvm).2
    have h2 : s.epoch = sp.epoch + 1 := h.2
    omega
  have hnew : (ch.map (mkState d.vrf sp.table (sp.epoch + 1))).Pairwise
      (fun a b => ¬ (a.username = b.username ∧ a.epoch = b.epoch)) := by
    rw [List.pairwise_map]
    exact (List.pairwise_map.1 hnd).imp (fun h h' => h h'.1)
  have hsub : ∀ u, ∀ v ∈ sp.table.get u, v ∈ (ch.foldl (step (sp.epoch + 1)) sp.table).get u := by
    intro u v hv
    rcases get_fold (sp.epoch + 1) ch sp.table hnd u with h | ⟨_, _, _, h⟩ <;> rw [h]
    · exact hv
    · exact List.mem_append_left _ hv
  refine ⟨Dir.foldl_setState_append _ _ hold hnew, ?_, ?_, List.pairwise_append.2 ⟨hm.2.2, hnew, hold⟩⟩
  · intro s hs
    rcases List.mem_append.1 hs with hs | hs
    · obtain ⟨v, hvm, h⟩ := hm.1 s hs
      exact ⟨v, hsub _ v hvm, h⟩
    · obtain ⟨x, hx, rfl⟩ := List.mem_map.1 hs
      refine ⟨⟨(sp.table.get x.1).length + 1, x.2, sp.epoch + 1⟩, ?_, rfl, rfl, rfl, ?_⟩
      · show _ ∈ (ch.foldl (step (sp.epoch + 1)) sp.table).get x.1
        rw [get_fold_of_mem _ ch sp.table hnd x hx]; simp
      · obtain ⟨l, hl⟩ := Option.isSome_iff_exists.1 (hsome x hx)
        simp [mkState, hl]
  · intro u v hvm
    have hold' : v ∈ sp.table.get u → ∃ s ∈ d.states ++ ch.map (mkState d.vrf sp.table (sp.epoch + 1)),
        s.username = u ∧ s.version = v.version ∧ s.epoch = v.epoch ∧ s.value = v.value := fun hv => by
      obtain ⟨s, hs, h'⟩ := hm.2.1 u v hv
      exact ⟨s, List.mem_append_left _ hs, h'⟩
    rcases get_fold (sp.epoch + 1) ch sp.table hnd u with h | ⟨x, hx, hxu, h⟩ <;> rw [h] at hvm
    · exact hold' hvm
    · rcases List.mem_append.1 hvm with hvm | hvm
      · exact hold' hvm
      · simp at hvm; subst hvm
        exact ⟨mkState d.vrf sp.table (sp.epoch + 1) x, List.mem_append_right _ (List.mem_map_of_mem hx), by simp [mkState, hxu]⟩

end Akd.Pub
