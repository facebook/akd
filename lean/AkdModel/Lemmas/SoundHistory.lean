/-
What an accepted run of the history verifier has checked: the shape of the version list and of the
marker lists (`withHistoryParams`), every single update proof, the non-membership proofs of the future
markers (`history_ok` does not report the membership proofs of the past markers: soundness does not use them).
-/
import AkdModel.Lemmas.SoundLemmas
namespace Akd.Snd
open Akd Verify

theorem consDec_iff (rest : List Nat) : ∀ a : Nat, consecutiveDecreasing (a :: rest) = true ↔
    ∀ i (h : i < (a :: rest).length), (a :: rest)[i] + i = a := by
  induction rest with
  | nil => intro a; simp [consecutiveDecreasing]
  | cons b r ih =>
    intro a
    simp only [consecutiveDecreasing, Bool.and_eq_true, beq_iff_eq, ih b]
    constructor
    · rintro ⟨hab, h⟩ i hi
      cases i with
      | zero => rfl
      | succ j =>
        have := h j (by simpa using hi)
        rw [List.getElem_cons_succ, ← Nat.add_assoc, this]
        exact hab
    · intro h
      have hab : b + 1 = a := h 1 (by simp)
      refine ⟨hab, fun j hj => ?_⟩
      have : (b :: r)[j] + (j + 1) = a := h (j + 1) (by simpa using hj)
      exact Nat.add_right_cancel ((Nat.add_assoc _ _ _).trans (this.trans hab.symm))

theorem consDec_fold (rest : List Nat) : ∀ a m : Nat, consecutiveDecreasing (a :: rest) = true → a ≤ m →
    (a :: rest).foldl min m + rest.length = a ∧ (a :: rest).foldl max m = m := by
  induction rest with
  | nil => intro a m _ h; simp [Nat.min_eq_right h, Nat.max_eq_left h]
  | cons b r ih =>
    intro a m hc h
    simp only [consecutiveDecreasing, Bool.and_eq_true, beq_iff_eq] at hc
    have hba : b ≤ a := Nat.le_of_succ_le (Nat.le_of_eq hc.1)
    obtain ⟨h1, -⟩ := ih b a hc.2 hba
    obtain ⟨-, h2⟩ := ih b m hc.2 (Nat.le_trans hba h)
    simp only [List.foldl_cons, Nat.min_eq_right h, Nat.max_eq_left h, List.length_cons] at h1 h2 ⊢
    exact ⟨by rw [← Nat.add_assoc, h1]; exact hc.1, h2⟩

def ParamsOK (p : HistoryParams) (k startV : Nat) : Prop :=
  match p with
  | .complete => startV = 1
  | .mostRecent r => k ≤ r ∧ (k < r → startV = 1)

/-- what an accepted parameter check has established: `k` update proofs for the consecutive
versions `v0, v0-1, …, v0+1-k ≥ 1` with `v0 ≤ E`, as many as the parameter asks for, and marker
proof lists of the lengths of the marker lists for that range -/
structure Shape (E : Nat) (π : HistoryProof) (p : HistoryParams) (past future : List Nat) (v0 : Nat) : Prop where
  pos : 0 < π.updates.length
  ver : ∀ i (h : i < π.updates.length), (π.updates[i]).version + i = v0
  start : π.updates.length ≤ v0
  le : v0 ≤ E
  params : ParamsOK p π.updates.length (v0 + 1 - π.updates.length)
  markers : Marker.markers? (v0 + 1 - π.updates.length) v0 E = some (past, future)
  pastLen : past.length = π.pastVrf.length ∧ π.pastVrf.length = π.past.length
  futureLen : future.length = π.futureVrf.length ∧ π.futureVrf.length = π.future.length

theorem markers_eq_some {s e E : Nat} {past future : List Nat} :
    Marker.markers? s e E = some (past, future) ↔
      Marker.past? s = some past ∧ Marker.future? e E = some future := by
  unfold Marker.markers?
  cases Marker.past? s <;> cases Marker.future? e E <;> simp

theorem paramsOK_length {p : HistoryParams} {k L : Nat} (hk : k ≤ L) :
    ParamsOK p k (L + 1 - k) ↔ k = match p with
      | .complete => L
      | .mostRecent r => min r L := by
  have hs : L + 1 - k = 1 ↔ k = L := by omega
  cases p with
  | complete => exact hs
  | mostRecent r =>
    simp only [ParamsOK, hs]
    omega

/-- the left side is the parameter check as it stands in `withHistoryParams` -/
theorem paramsOK_iff (p : HistoryParams) (k s : Nat) :
    (match p with
      | .complete => s == 1
      | .mostRecent r => if k > r then false else if k < r then s == 1 else true) = true ↔ ParamsOK p k s := by
  cases p with
  | complete => simp [ParamsOK]
  | mostRecent r =>
    simp only [ParamsOK]
    by_cases h1 : k > r
    · simp [h1]; omega
    · by_cases h2 : k < r <;> simp [h1, h2] <;> omega

theorem withHistoryParams_iff {E : Nat} {π : HistoryProof} {p : HistoryParams} {past future : List Nat} :
    withHistoryParams E π p = .ok (past, future) ↔ ∃ v0, Shape E π p past future v0 := by
  unfold withHistoryParams
  cases hV : π.updates.map (·.version) with
  | nil =>
    have : π.updates.length = 0 := by simpa using congrArg List.length hV
    exact ⟨(fun h => nomatch h), (fun ⟨_, sh⟩ => absurd sh.pos (this ▸ Nat.lt_irrefl 0))⟩
  | cons a vs =>
    have hlen : π.updates.length = vs.length + 1 := by simpa using congrArg List.length hV
    have hget : ∀ i (h : i < π.updates.length), (π.updates[i]).version = (a :: vs)[i]'(by rw [List.length_cons, ← hlen]; exact h) := by
      intro i h; simp only [← hV, List.getElem_map]
    -- for a consecutive-decreasing list `a :: vs` the folds give start `a + 1 - k` and end `a`: with `v0 = a`
    -- every `if` of the function is one field of `Shape`; any other list fails the first check and `Shape.ver`
    by_cases hcd : consecutiveDecreasing (a :: vs) = true
    · obtain ⟨hmin, hmax⟩ := consDec_fold vs a a hcd (Nat.le_refl _)
      have hst : (a :: vs).foldl min a = a + 1 - π.updates.length := by
        rw [hlen, Nat.add_sub_add_right]
        exact Nat.eq_sub_of_add_eq hmin
      simp only [hcd, hmax, hst, ite_error_eq_ok, Bool.not_true, Bool.false_eq_true, not_false_eq_true, true_and,
        Bool.not_eq_true', Bool.not_eq_false]
      constructor
      · rintro ⟨hs, he, hp, hm⟩
        cases hmk : Marker.markers? (a + 1 - π.updates.length) a E with
        | none => simp [hmk] at hm
        | some pf =>
          obtain ⟨pa, fu⟩ := pf
          simp only [hmk, ite_error_eq_ok, ne_eq, Decidable.not_not, Except.ok.injEq, Prod.mk.injEq] at hm
          obtain ⟨l1, l2, l3, l4, rfl, rfl⟩ := hm
          refine ⟨a, hlen ▸ Nat.succ_pos _, fun i hi => ?_, Nat.le_of_lt_succ (Nat.lt_of_sub_ne_zero hs), Nat.le_of_not_gt he, (paramsOK_iff _ _ _).1 hp, hmk,
            ⟨l1, l2⟩, ⟨l3, l4⟩⟩
          rw [hget i hi]
          exact (consDec_iff vs a).1 hcd i _
      · rintro ⟨v0, sh⟩
        have : v0 = a := by have := sh.ver 0 sh.pos; rw [hget 0 sh.pos] at this; exact this.symm
        subst this
        refine ⟨Nat.sub_ne_zero_of_lt (Nat.lt_succ_of_le sh.start), Nat.not_lt.2 sh.le, (paramsOK_iff _ _ _).2 sh.params, ?_⟩
        simp only [sh.markers, sh.pastLen, sh.futureLen, ne_eq, not_true_eq_false, if_false]
    · refine ⟨fun h => by simp [hcd] at h, fun ⟨v0, sh⟩ => absurd ((consDec_iff vs a).2 fun i hi => ?_) hcd⟩
      have hi' : i < π.updates.length := by rw [hlen, ← List.length_cons]; exact hi
      have h0 := sh.ver 0 sh.pos
      have := sh.ver i hi'
      rw [hget i hi'] at this
      rw [hget 0 sh.pos] at h0
      exact this.trans h0.symm

theorem singleUpdate_ok {c : Cfg} {vrf : VrfTable} {root : Dig} {u : Bytes} {allow : Bool}
    {p : UpdateProof} {r : VerifyResult} (h : singleUpdate c vrf root u allow p = .ok r) :
    r = ⟨p.epoch, p.version, p.value⟩ ∧
    ((allow = true ∧ p.value = [] ∧
        existence c vrf root u true p.version p.existenceVrf p.existence = .ok ()) ∨
      existenceWithVal c vrf root u p.value p.epoch p.commitmentNonce true p.version
        p.existenceVrf p.existence = .ok ()) ∧
    (2 ≤ p.version → ∃ pv pp,
      existenceWithCommitment c vrf root u c.staleValue p.epoch false (p.version - 1) pv pp = .ok ()) := by
  unfold singleUpdate at h
  simp only at h
  split at h
  · cases h
  rename_i hfirst
  have h1 : (allow = true ∧ p.value = [] ∧
        existence c vrf root u true p.version p.existenceVrf p.existence = .ok ()) ∨
      existenceWithVal c vrf root u p.value p.epoch p.commitmentNonce true p.version
        p.existenceVrf p.existence = .ok () := by
    split at hfirst
    · rename_i hc
      simp only [Bool.and_eq_true, decide_eq_true_eq] at hc
      exact Or.inl ⟨hc.1, hc.2, hfirst⟩
    · exact Or.inr hfirst
  split at h
  · injection h with h
    exact ⟨h.symm, h1, fun h2 => by omega⟩
  · split at h
    · cases h
    · cases h
    · rename_i pp pv _ _
      split at h
      · cases h
      · rename_i hs
        injection h with h
        exact ⟨h.symm, h1, fun _ => ⟨pv, pp, hs⟩⟩

theorem verifyUpdates_ok {c : Cfg} {vrf : VrfTable} {root : Dig} {u : Bytes} {allow : Bool} :
    ∀ (ups : List UpdateProof) (prev : Option Nat) (rs : List VerifyResult),
      verifyUpdates c vrf root u allow prev ups = .ok rs →
      rs = ups.map (fun p => ⟨p.epoch, p.version, p.value⟩) ∧
      ∀ p ∈ ups, singleUpdate c vrf root u allow p = .ok ⟨p.epoch, p.version, p.value⟩
  | [], _, _, h => by cases h; exact ⟨rfl, fun _ hp => nomatch hp⟩
  | p :: rest, prev, rs, h => by
    simp only [verifyUpdates, ite_error_eq_ok] at h
    obtain ⟨-, h⟩ := h
    split at h
    · cases h
    rename_i r hr
    split at h
    · cases h
    rename_i rs' hrs
    cases h
    obtain ⟨e1, e2⟩ := verifyUpdates_ok rest _ _ hrs
    obtain rfl := (singleUpdate_ok hr).1
    exact ⟨by rw [e1]; rfl, List.forall_mem_cons.2 ⟨hr, e2⟩⟩

/-- in allow-mode an entry of version 1 with the empty value passes on the presence of its fresh leaf
alone, whatever its epoch and nonce (finding C07-F1) -/
theorem singleUpdate_tombstone {c : Cfg} {vrf : VrfTable} {root : Dig} {u : Bytes} (ep : Nat) (pf : VrfProof)
    (mp : MembershipProof) (pv : Option VrfProof) (pp : Option MembershipProof) (nonce : Dig)
    (hex : existence c vrf root u true 1 pf mp = .ok ()) :
    singleUpdate c vrf root u true ⟨ep, [], 1, pf, mp, pv, pp, nonce⟩ = .ok ⟨ep, 1, []⟩ := by
  simp only [singleUpdate, hex, Bool.true_and, decide_true, if_true, Nat.le_refl]

theorem verifyUpdates_pair {c : Cfg} {vrf : VrfTable} {root : Dig} {u : Bytes} {allow : Bool} {p q : UpdateProof}
    {r s : VerifyResult} (hp : singleUpdate c vrf root u allow p = .ok r)
    (hq : singleUpdate c vrf root u allow q = .ok s) (hep : q.epoch ≤ p.epoch) :
    verifyUpdates c vrf root u allow none [p, q] = .ok [r, s] := by
  simp only [verifyUpdates, hp, hq, Nat.not_lt.2 hep, decide_false, Bool.false_eq_true, if_false]

theorem verifyAll_mem {α β} (f : α → β → Except VErr Unit) :
    ∀ (as : List α) (bs : List β), verifyAll f as bs = .ok () → as.length ≤ bs.length →
      ∀ a ∈ as, ∃ b ∈ bs, f a b = .ok ()
  | [], _, _, _, _, ha => nomatch ha
  | _ :: _, [], _, hl, _, _ => nomatch hl
  | a :: as, b :: bs, h, hl, x, hx => by
    simp only [verifyAll] at h
    split at h
    · cases h
    rename_i hab
    rcases List.mem_cons.1 hx with rfl | hx
    · exact ⟨b, List.mem_cons_self, hab⟩
    · obtain ⟨b', hb', hf⟩ := verifyAll_mem f as bs h (Nat.le_of_succ_le_succ hl) x hx
      exact ⟨b', List.mem_cons_of_mem _ hb', hf⟩

theorem history_ok {c : Cfg} {vrf : VrfTable} {root : Dig} {E : Nat} {u : Bytes} {π : HistoryProof}
    {p : HistoryParams} {allow : Bool} {rs : List VerifyResult}
    (h : history c vrf root E u π p allow = .ok rs) :
    ∃ past future, withHistoryParams E π p = .ok (past, future) ∧
      verifyUpdates c vrf root u allow none π.updates = .ok rs ∧
      (∀ v ∈ future, ∃ pf np, nonexistence c vrf root u true v pf np = .ok ()) := by
  unfold history at h
  split at h
  · cases h
  rename_i past future hw
  split at h
  · cases h
  rename_i rs' hu
  split at h
  · cases h
  split at h
  · cases h
  rename_i hf
  injection h with h
  subst h
  refine ⟨past, future, hw, hu, ?_⟩
  intro v hv
  obtain ⟨v0, sh⟩ := withHistoryParams_iff.1 hw
  have hl : future.length ≤ (π.futureVrf.zip π.future).length := by
    rw [List.length_zip, sh.futureLen.1, sh.futureLen.2]; simp
  obtain ⟨b, _, hb⟩ := verifyAll_mem _ _ _ hf hl v hv
  refine ⟨b.1, b.2, ?_⟩
  split at hb
  · cases hb
  · assumption

end Akd.Snd
