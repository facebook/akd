/-
The label order is a total preorder and insertion sort sorts by it; Rust's `binary_search_by` and
`partition_point` on a comparator that is monotone along the slice.
-/
import AkdModel.Lemmas.LabelLex
namespace Akd

namespace NodeLabel

theorem cmp_ne_gt_iff (a b : NodeLabel) :
    cmp a b ≠ .gt ↔ a.len < b.len ∨
      (a.len = b.len ∧ BitStr.toNat a.bits256 ≤ BitStr.toNat b.bits256) := by
  rw [cmp_eq, BitStr.lex_eq_compare _ _ ((bits256_length a).trans (bits256_length b).symm),
    Nat.compare_eq_ite_lt a.len]
  split
  · simp [*]
  · split
    · simp; omega
    · rw [Ordering.eq_then, Nat.compare_ne_gt]; omega

theorem cmp_total (a b : NodeLabel) (h : ¬ cmp a b ≠ .gt) : cmp b a ≠ .gt := by
  rw [cmp_ne_gt_iff] at *; omega

theorem cmp_trans (a b c : NodeLabel) (h1 : cmp a b ≠ .gt) (h2 : cmp b c ≠ .gt) : cmp a c ≠ .gt := by
  rw [cmp_ne_gt_iff] at *; omega

end NodeLabel

theorem insertByLabel_perm {α} (x : NodeLabel × α) (ys : List (NodeLabel × α)) :
    (insertByLabel x ys).Perm (x :: ys) := by
  induction ys with
  | nil => simp [insertByLabel]
  | cons y ys ih =>
    simp only [insertByLabel]
    split
    · exact (List.Perm.cons y ih).trans (List.Perm.swap x y ys)
    · exact List.Perm.refl _

theorem insertByLabel_sorted {α} (x : NodeLabel × α) (ys : List (NodeLabel × α))
    (h : ys.Pairwise (fun x y => NodeLabel.cmp x.1 y.1 ≠ .gt)) :
    (insertByLabel x ys).Pairwise (fun x y => NodeLabel.cmp x.1 y.1 ≠ .gt) := by
  induction ys with
  | nil => simp [insertByLabel]
  | cons y ys ih =>
    rw [List.pairwise_cons] at h
    simp only [insertByLabel]
    split
    · rename_i hgt
      refine List.pairwise_cons.mpr ⟨fun z hz => ?_, ih h.2⟩
      rcases List.mem_cons.mp ((insertByLabel_perm x ys).mem_iff.mp hz) with rfl | hz'
      · exact NodeLabel.cmp_total _ _ (by simpa using hgt)
      · exact h.1 z hz'
    · rename_i hgt
      have hxy : NodeLabel.cmp x.1 y.1 ≠ .gt := by simpa using hgt
      refine List.pairwise_cons.mpr ⟨fun z hz => ?_, List.pairwise_cons.mpr h⟩
      rcases List.mem_cons.mp hz with rfl | hz'
      · exact hxy
      · exact NodeLabel.cmp_trans _ _ _ hxy (h.1 z hz')

/-- rank of an `Ordering` in the order `lt < eq < gt` -/
def rk : Ordering → Nat
  | .lt => 0
  | .eq => 1
  | .gt => 2

theorem rk_le_lt {o : Ordering} (h : rk o ≤ rk .lt) : o = .lt := by
  cases o <;> simp [rk] at h ⊢

theorem rk_gt_le {o : Ordering} (h : rk .gt ≤ rk o) : o = .gt := by
  cases o <;> simp [rk] at h ⊢

/-- what the halving loop establishes about the index it returns -/
def BsPost {α} (f : α → Ordering) (xs : Array α) (b : Nat) : Prop :=
  b < xs.size ∧ (b = 0 ∨ ∃ h : b < xs.size, f xs[b] ≠ .gt) ∧
    ∀ i (h : i < xs.size), b + 1 ≤ i → f xs[i] = .gt

/-- Invariant of the loop on the window `[base, base + size)`: the element at `base` is not
`Greater` (unless `base = 0`, where nothing is known yet), everything from the end of the window on
is `Greater`. -/
theorem bs_loop_spec {α} (f : α → Ordering) (xs : Array α)
    (hmono : ∀ i j (_ : i < j) (hj : j < xs.size), rk (f xs[i]) ≤ rk (f xs[j]))
    (fuel base size : Nat) (h1 : 1 ≤ size) (h2 : base + size ≤ xs.size) (h3 : size ≤ fuel + 1)
    (hA : base = 0 ∨ ∃ h : base < xs.size, f xs[base] ≠ .gt)
    (hB : ∀ i (h : i < xs.size), base + size ≤ i → f xs[i] = .gt) :
    BsPost f xs (binarySearchBy.loop f xs fuel base size) := by
  induction fuel generalizing base size with
  | zero =>
    show BsPost f xs base
    exact ⟨by omega, hA, fun i h hi => hB i h (by omega)⟩
  | succ fuel ih =>
    rw [binarySearchBy.loop]
    split
    · have hmid : base + size / 2 < xs.size := by omega
      simp only [Array.getElem?_eq_getElem hmid]
      split
      · rename_i hc
        have hc : f xs[base + size / 2] = .gt := by simpa using hc
        refine ih base _ (by omega) (by omega) (by omega) hA fun i hi hle => ?_
        -- `mid` is `Greater`, so is everything after it
        by_cases him : i = base + size / 2
        · subst him; exact hc
        · exact rk_gt_le (hc ▸ hmono (base + size / 2) i (by omega) hi)
      · rename_i hc
        exact ih _ _ (by omega) (by omega) (by omega) (Or.inr ⟨hmid, by simpa using hc⟩)
          fun i hi hle => hB i hi (by omega)
    · exact ⟨by omega, hA, fun i h hi => hB i h (by omega)⟩

/-- `binary_search_by` on a slice sorted as `Less* Equal* Greater*`: it finds an `Equal` element if
there is one; if the comparator never says `Equal`, the index returned is the number of `Less`. -/
theorem bs_spec {α} (f : α → Ordering) (xs : Array α)
    (hmono : ∀ i j (_ : i < j) (hj : j < xs.size), rk (f xs[i]) ≤ rk (f xs[j])) :
    ((binarySearchBy f xs).1 = true ↔ ∃ i, ∃ h : i < xs.size, f xs[i] = .eq) ∧
    ((∀ i (h : i < xs.size), f xs[i] ≠ .eq) →
      (binarySearchBy f xs).2 ≤ xs.size ∧
      ∀ i (h : i < xs.size), i < (binarySearchBy f xs).2 ↔ f xs[i] = .lt) := by
  unfold binarySearchBy
  split
  · exact ⟨⟨fun h => (by cases h), fun ⟨i, h, _⟩ => by omega⟩,
      fun _ => ⟨by omega, fun i h => by omega⟩⟩
  · obtain ⟨hb, hA, hB⟩ := bs_loop_spec f xs hmono xs.size 0 xs.size (by omega) (by omega) (by omega)
      (Or.inl rfl) (fun i h hle => by omega)
    generalize binarySearchBy.loop f xs xs.size 0 xs.size = b at hb hA hB
    simp only [Array.getElem?_eq_getElem hb]
    -- no element before `b` ranks above `xs[b]`, all elements after it are `Greater`
    have hlo : ∀ i (h : i < xs.size), i < b → rk (f xs[i]) ≤ rk (f xs[b]) :=
      fun i h hi => hmono i b hi hb
    cases hc : f xs[b] with
    | lt =>
      have hlt : ∀ i (h : i < xs.size), i < b + 1 → f xs[i] = .lt := by
        intro i h hi
        by_cases hib : i = b
        · subst hib; exact hc
        · exact rk_le_lt (hc ▸ hlo i h (by omega))
      simp only [beq_iff_eq, reduceCtorEq, ↓reduceIte]
      refine ⟨⟨fun h => (by cases h), fun ⟨i, h, he⟩ => ?_⟩,
        fun _ => ⟨hb, fun i h => ⟨hlt i h, fun he => ?_⟩⟩⟩
      · by_cases hi : i < b + 1
        · rw [hlt i h hi] at he; cases he
        · rw [hB i h (by omega)] at he; cases he
      · apply Nat.lt_of_not_le
        intro hi
        rw [hB i h (by simpa using hi)] at he; cases he
    | eq => exact ⟨⟨fun _ => ⟨b, hb, hc⟩, fun _ => rfl⟩, fun hne => absurd hc (hne b hb)⟩
    | gt =>
      obtain rfl : b = 0 := hA.elim id fun ⟨_, h⟩ => absurd hc h
      have hgt : ∀ i (h : i < xs.size), f xs[i] = .gt := by
        intro i h
        by_cases hi : i = 0
        · subst hi; exact hc
        · exact hB i h (by omega)
      simp only [beq_iff_eq, reduceCtorEq, ↓reduceIte]
      refine ⟨⟨fun h => (by cases h), fun ⟨i, h, he⟩ => ?_⟩, fun _ => ⟨Nat.zero_le _, fun i h => ?_⟩⟩
      · rw [hgt i h] at he; cases he
      · rw [hgt i h]; simp

theorem mono_toArray {α} {f : α → Ordering} {l : List α}
    (hmono : l.Pairwise (fun x y => rk (f x) ≤ rk (f y))) :
    ∀ i j (_ : i < j) (hj : j < l.toArray.size), rk (f l.toArray[i]) ≤ rk (f l.toArray[j]) :=
  fun i j hij hj => List.pairwise_iff_getElem.mp hmono i j _ (by simpa using hj) hij

theorem take_drop_eq_filter {α} {q : α → Bool} {l : List α} {k : Nat}
    (h : ∀ i (h : i < l.length), i < k ↔ q l[i] = true) :
    l.take k = l.filter q ∧ l.drop k = l.filter (fun x => !q x) := by
  have ha : ∀ x ∈ l.take k, q x = true := by
    intro x hx
    obtain ⟨i, hi, rfl⟩ := List.mem_take_iff_getElem.mp hx
    exact (h i (by omega)).1 (by omega)
  have hb : ∀ x ∈ l.drop k, q x = false := by
    intro x hx
    obtain ⟨i, hi, rfl⟩ := List.mem_drop_iff_getElem.mp hx
    exact Bool.eq_false_iff.2 fun hq => absurd ((h (k + i) (by omega)).2 hq) (by omega)
  have h1 : (l.take k ++ l.drop k).filter q = l.take k := by
    rw [List.filter_append, List.filter_eq_self.2 ha,
      List.filter_eq_nil_iff.2 fun x hx => by simp [hb x hx], List.append_nil]
  have h2 : (l.take k ++ l.drop k).filter (fun x => !q x) = l.drop k := by
    rw [List.filter_append, List.filter_eq_nil_iff.2 fun x hx => by simp [ha x hx],
      List.filter_eq_self.2 fun x hx => by simp [hb x hx], List.nil_append]
  rw [List.take_append_drop] at h1 h2
  exact ⟨h1.symm, h2.symm⟩

theorem partitionPoint_spec {α} (q : α → Bool) (l : List α)
    (hmono : l.Pairwise (fun x y => q y = true → q x = true)) :
    l.take (partitionPoint q l.toArray) = l.filter q ∧
    l.drop (partitionPoint q l.toArray) = l.filter (fun x => !q x) := by
  have hm : l.Pairwise fun x y =>
      rk (if q x then Ordering.lt else .gt) ≤ rk (if q y then .lt else .gt) :=
    hmono.imp fun {x y} h => by cases hy : q y <;> cases hx : q x <;> simp_all [rk]
  obtain ⟨_, hsplit⟩ := (bs_spec _ l.toArray (mono_toArray hm)).2 fun i h => by split <;> simp
  refine take_drop_eq_filter fun i hi => ?_
  rw [partitionPoint, hsplit i (by simpa using hi), List.getElem_toArray]
  cases q l[i] <;> simp

theorem binarySearchBy_found {α} (f : α → Ordering) (l : List α)
    (hmono : l.Pairwise (fun x y => rk (f x) ≤ rk (f y))) :
    (binarySearchBy f l.toArray).1 = l.any (fun x => f x == .eq) := by
  rw [Bool.eq_iff_iff, (bs_spec f l.toArray (mono_toArray hmono)).1, List.any_eq_true]
  constructor
  · rintro ⟨i, hi, he⟩
    exact ⟨l[i]'(by simpa using hi), List.getElem_mem _, by simpa using he⟩
  · rintro ⟨x, hx, he⟩
    obtain ⟨i, hi, rfl⟩ := List.mem_iff_getElem.mp hx
    exact ⟨i, by simpa using hi, by simpa using he⟩

end Akd
