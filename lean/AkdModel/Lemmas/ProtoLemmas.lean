/-
The typed conversions (`enc*` / `dec*`): minimised labels, `mapM` over mapped lists, and the lemmas by
which a conversion is shown not to tell `FieldsEqv`-related messages apart: it reads a message only
through `get`, and nested messages only through other conversions.
-/
import AkdModel.Lemmas.ProtoWire
namespace Akd.Proto

theorem takeWhile_zero_eq_replicate (r : Bytes) :
    r.takeWhile (· = 0) = List.replicate (r.takeWhile (· = 0)).length 0 :=
  List.eq_replicate_iff.mpr ⟨rfl, fun b hb => by simpa using List.all_eq_true.mp List.all_takeWhile b hb⟩

theorem minimize_append (v : Bytes) :
    minimize v ++ List.replicate (v.length - (minimize v).length) 0 = v := by
  have h := congrArg List.reverse (List.takeWhile_append_dropWhile (p := (· = 0)) (l := v.reverse))
  rw [List.reverse_append, List.reverse_reverse, takeWhile_zero_eq_replicate, List.reverse_replicate] at h
  have hl := congrArg List.length h
  simp only [List.length_append, List.length_reverse, List.length_replicate] at hl
  unfold minimize
  rw [← hl, List.length_reverse, Nat.add_sub_cancel_left]
  exact h

theorem minimize_length_le (v : Bytes) : (minimize v).length ≤ v.length := by
  have := congrArg List.length (minimize_append v)
  simp only [List.length_append, List.length_replicate] at this
  omega

theorem pad32_minimize (v : Bytes) (h : v.length = 32) : pad32 (minimize v) = v := by
  unfold pad32
  rw [← h]
  exact minimize_append v

theorem mapM_map_some {α β γ : Type} (g : α → β) (f : β → Option γ) (h : α → γ) (l : List α)
    (hh : ∀ a ∈ l, f (g a) = some (h a)) : (l.map g).mapM f = some (l.map h) := by
  induction l with
  | nil => rfl
  | cons a l ih =>
    have h1 := hh a (List.mem_cons_self)
    have h2 := ih (fun b hb => hh b (List.mem_cons_of_mem _ hb))
    simp [List.mapM_cons, h1, h2]

theorem mapM_dec_enc {α β : Type} {enc : α → β} {dec : β → Option α} {l : List α}
    (h : ∀ a ∈ l, dec (enc a) = some a) : (l.map enc).mapM dec = some l := by
  rw [mapM_map_some enc dec id l h, List.map_id]

theorem mapM_some_id {α β : Type} (f : α → Option β) (h : α → β) (l : List α)
    (hh : ∀ a ∈ l, f a = some (h a)) : l.mapM f = some (l.map h) := by
  have := mapM_map_some (fun a => a) f h l hh
  simpa using this

theorem msgsOf_map {α : Type} (g : α → PMsg) (l : List α) :
    msgsOf (l.map fun a => PVal.msg (g a)) = some (l.map g) :=
  mapM_map_some (fun a => PVal.msg (g a)) _ g l (fun _ _ => rfl)

theorem bytesOf_map (l : List Bytes) : bytesOf (l.map PVal.bytes) = some l :=
  mapM_dec_enc fun _ _ => rfl

theorem numsOf_map (l : List Nat) : numsOf (l.map PVal.num) = some l :=
  mapM_dec_enc fun _ _ => rfl

theorem ListRel.cases₁ {α β : Type} {R : α → β → Prop} {a : List α} {b : List β} (h : ListRel R a b) :
    (a = [] ∧ b = []) ∨ (∃ x y, a = [x] ∧ b = [y] ∧ R x y) ∨
      ∃ x x' xs y y' ys, a = x :: x' :: xs ∧ b = y :: y' :: ys :=
  match a, b, h with
  | [], [], _ => .inl ⟨rfl, rfl⟩
  | [x], [y], h => .inr (.inl ⟨x, y, rfl, rfl, h.1⟩)
  | x :: x' :: xs, y :: y' :: ys, _ => .inr (.inr ⟨x, x', xs, y, y', ys, rfl, rfl⟩)

theorem ListRel.mapM {α β γ : Type} {R : α → β → Prop} {f : α → Option γ} {g : β → Option γ}
    (hfg : ∀ x y, R x y → f x = g y) : ∀ {xs ys}, ListRel R xs ys → xs.mapM f = ys.mapM g
  | [], [], _ => rfl
  | x :: xs, y :: ys, h => by rw [List.mapM_cons, List.mapM_cons, hfg x y h.1, ListRel.mapM hfg h.2]

section
variable {E : PMsg → PMsg → Prop} {a b : PMsg} {γ : Type}

theorem ValEqv.cases {x y : PVal} (h : ValEqv E x y) :
    (∃ p, x = .bytes p ∧ y = .bytes p) ∨ (∃ p, x = .num p ∧ y = .num p) ∨
      ∃ s t, x = .msg s ∧ y = .msg t ∧ E s t := by
  cases x <;> cases y <;> try exact h.elim
  · exact .inl ⟨_, rfl, congrArg _ h.symm⟩
  · exact .inr (.inl ⟨_, rfl, congrArg _ h.symm⟩)
  · exact .inr (.inr ⟨_, _, rfl, rfl, h⟩)

/-- the readers of scalar fields look at one value at most, and not into a nested message -/
theorem rel_scalars (h : FieldsEqv E a b) (n : Nat) :
    reqBytes a n = reqBytes b n ∧ reqNum a n = reqNum b n ∧ optBytes a n = optBytes b n := by
  unfold reqBytes reqNum optBytes
  rcases (h n).cases₁ with ⟨e1, e2⟩ | ⟨x, y, e1, e2, hxy⟩ | ⟨x, _, _, y, _, _, e1, e2⟩ <;> rw [e1, e2]
  · exact ⟨rfl, rfl, rfl⟩
  · rcases hxy.cases with ⟨p, rfl, rfl⟩ | ⟨p, rfl, rfl⟩ | ⟨s, t, rfl, rfl, -⟩ <;> exact ⟨rfl, rfl, rfl⟩
  · cases x <;> cases y <;> exact ⟨rfl, rfl, rfl⟩

theorem rel_reqBytes (h : FieldsEqv E a b) (n : Nat) : reqBytes a n = reqBytes b n := (rel_scalars h n).1
theorem rel_reqNum (h : FieldsEqv E a b) (n : Nat) : reqNum a n = reqNum b n := (rel_scalars h n).2.1
theorem rel_optBytes (h : FieldsEqv E a b) (n : Nat) : optBytes a n = optBytes b n := (rel_scalars h n).2.2

theorem rel_bytesOf (h : FieldsEqv E a b) (n : Nat) : bytesOf (a.get n) = bytesOf (b.get n) :=
  ListRel.mapM (fun x y hxy => by
    rcases hxy.cases with ⟨p, rfl, rfl⟩ | ⟨p, rfl, rfl⟩ | ⟨s, t, rfl, rfl, -⟩ <;> rfl) (h n)

theorem rel_numsOf (h : FieldsEqv E a b) (n : Nat) : numsOf (a.get n) = numsOf (b.get n) :=
  ListRel.mapM (fun x y hxy => by
    rcases hxy.cases with ⟨p, rfl, rfl⟩ | ⟨p, rfl, rfl⟩ | ⟨s, t, rfl, rfl, -⟩ <;> rfl) (h n)

theorem rel_reqMsg (h : FieldsEqv E a b) (n : Nat) {k k' : PMsg → Option γ} (hk : ∀ s t, E s t → k s = k' t) :
    reqMsg a n >>= k = reqMsg b n >>= k' := by
  unfold reqMsg
  rcases (h n).cases₁ with ⟨e1, e2⟩ | ⟨x, y, e1, e2, hxy⟩ | ⟨x, _, _, y, _, _, e1, e2⟩ <;> rw [e1, e2]
  · rfl
  · rcases hxy.cases with ⟨p, rfl, rfl⟩ | ⟨p, rfl, rfl⟩ | ⟨s, t, rfl, rfl, hst⟩
    · rfl
    · rfl
    · exact hk s t hst
  · cases x <;> cases y <;> rfl

theorem msgsOf_bind : ∀ {xs ys : List PVal}, ListRel (ValEqv E) xs ys → ∀ {k k' : List PMsg → Option γ},
    (∀ l l', ListRel E l l' → k l = k' l') → msgsOf xs >>= k = msgsOf ys >>= k'
  | [], [], _, _, _, hk => hk [] [] trivial
  | x :: xs, y :: ys, h, k, k', hk => by
    rcases h.1.cases with ⟨p, rfl, rfl⟩ | ⟨p, rfl, rfl⟩ | ⟨s, t, rfl, rfl, hst⟩
    · rfl
    · rfl
    · have ih := msgsOf_bind h.2 (fun l l' hl => hk (s :: l) (t :: l') ⟨hst, hl⟩)
      unfold msgsOf at ih ⊢
      simpa [List.mapM_cons, Option.bind_assoc] using ih

/-- stated with the continuation `K` so that `simp only` can rewrite with it -/
theorem rel_msgsOf_mapM (h : FieldsEqv E a b) (n : Nat) {δ : Type} {D : PMsg → Option δ}
    (hD : ∀ s t, E s t → D s = D t) (K : List δ → Option γ) :
    (msgsOf (a.get n) >>= fun l => l.mapM D >>= K) = (msgsOf (b.get n) >>= fun l => l.mapM D >>= K) :=
  msgsOf_bind (h n) fun _ _ hl => by rw [ListRel.mapM hD hl]

theorem ListRel.eq_of_scalars : ∀ {xs ys : List PVal}, ListRel (ValEqv E) xs ys →
    (∀ v ∈ ys, ∀ s, v ≠ .msg s) → xs = ys
  | [], [], _, _ => rfl
  | x :: xs, y :: ys, h, hy => by
    rw [eq_of_scalars h.2 (fun v hv => hy v (List.mem_cons_of_mem _ hv))]
    rcases h.1.cases with ⟨p, rfl, rfl⟩ | ⟨p, rfl, rfl⟩ | ⟨s, t, rfl, rfl, -⟩
    · rfl
    · rfl
    · exact absurd rfl (hy _ List.mem_cons_self t)

theorem rel_head? {l l' : List PMsg} (h : ListRel E l l') {k k' : PMsg → Option γ}
    (hk : ∀ s t, E s t → k s = k' t) : l.head? >>= k = l'.head? >>= k' :=
  match l, l', h with
  | [], [], _ => rfl
  | s :: _, t :: _, h => hk s t h.1

end

end Akd.Proto
