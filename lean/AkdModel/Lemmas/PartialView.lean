/-
C11, C13c, C13d: what holds after the insertion of a publish inside a transaction.  Every log record under a
pre-existing key still shows, as of every earlier epoch, what the database record shows, or nothing — and as of the
previous epoch the version the database holds (`txn_core`); only keys of nodes of the new tree change
(`chg_batchInsert`).
-/
import AkdModel.Lemmas.PartialInv
import AkdModel.Lemmas.PublishStore
namespace Akd.Part
open Akd NodeLabel NodeStore
open Akd.C13 (eraseParent)

theorem foldl_set_get : ∀ (W : List NodeRec) (db : NodeMap) (k : NodeLabel),
    NodeMap.get? (W.foldl NodeMap.set db) k = NodeMap.get? db k ∨
      ∃ r ∈ W, r.label = k ∧ NodeMap.get? (W.foldl NodeMap.set db) k = some r
  | [], _, _ => .inl rfl
  | r :: W, db, k => by
    rw [List.foldl_cons]
    rcases foldl_set_get W (NodeMap.set db r) k with h | ⟨r', hr', hl, h⟩
    · rw [NodeMap.get?_set] at h
      by_cases hk : k = r.label
      · rw [if_pos hk] at h
        exact .inr ⟨r, List.mem_cons_self, hk.symm, h⟩
      · rw [if_neg hk] at h
        exact .inl h
    · exact .inr ⟨r', List.mem_cons_of_mem _ hr', hl, h⟩

theorem get?_mem : ∀ (m : NodeMap) (k : NodeLabel) (r : NodeRec), NodeMap.get? m k = some r → (k, r) ∈ m
  | [], _, _, h => by simp [NodeMap.get?] at h
  | (k', r') :: rest, k, r, h => by
    simp only [NodeMap.get?] at h
    split at h
    · rename_i hk
      cases h
      rw [hk]
      exact List.mem_cons_self
    · exact List.mem_cons_of_mem _ (get?_mem rest k r h)

/-- under every key the database `M` holds what `D` holds, or the record the log `L` holds -/
def Mixed (D L M : NodeMap) : Prop :=
  ∀ k, M.get? k = D.get? k ∨ ∃ r', L.get? k = some r' ∧ M.get? k = some r'

/-- any part of the log's records, written in any order -/
theorem mixed_writes {s' : NodeStore} (hlog : Pub.LogOK s') (D : NodeMap) (W : List NodeRec)
    (hW : ∀ r ∈ W, ∃ k, s'.log.get? k = some r) : Mixed D s'.log (W.foldl NodeMap.set D) := by
  intro k
  rcases foldl_set_get W D k with h | ⟨r', hr', hl, h⟩
  · exact .inl h
  · obtain ⟨k', hk'⟩ := hW r' hr'
    have hkey : k' = r'.label := hlog.2.1 (k', r') (get?_mem _ _ _ hk')
    rw [hkey, hl] at hk'
    exact .inr ⟨r', hk', h⟩

theorem mixed_commit {s' : NodeStore} (hlog : Pub.LogOK s') : Mixed s'.db s'.log s'.commit.db := by
  intro k
  simp only [NodeStore.commit]
  rw [Pub.get_foldl_set _ _ k hlog.2.1 hlog.2.2]
  cases s'.log.get? k with
  | none => exact .inl rfl
  | some r => exact .inr ⟨r, rfl, rfl⟩

/-- the insertion of a publish, run inside a transaction on an idle store: `C01.batchInsert_spec` at `s.begin` -/
theorem insert_in_txn {K : BitStr → Prop} {I : NodeStore → Prop} (c : Cfg) (hc : c.emptyLabel.len = 0)
    (s : NodeStore) (a : Azks) (t : CRoot)
    (hidle : s.inTxn = false ∧ s.log = [])
    (hrep : C01.ReprRoot c .directory s t) (hwf : t.WF)
    (hep : ∀ lf ∈ t.leaves, 1 ≤ lf.ep ∧ lf.ep ≤ a.latestEpoch)
    (els : List (BitStr × Dig))
    (hpf : C01.PrefixFree (t.leaves ++ C01.newLeaves els (a.latestEpoch + 1)))
    (hlen : ∀ lf ∈ t.leaves ++ C01.newLeaves els (a.latestEpoch + 1), 1 ≤ lf.lbl.length ∧ lf.lbl.length ≤ 256)
    (s' : NodeStore) (a' : Azks)
    (hins : s.begin.batchInsert c .directory a (els.map fun x => (NodeLabel.ofBits x.1, x.2)) = .ok (s', a'))
    (hI : Ins.WriteInv (a.latestEpoch + 1) K I) (hs : I s.begin)
    (hgk : ∀ d : Bool, Ins.GK K [d] (if d then t.r else t.l)) :
    I s' ∧ Ins.Chg s.begin s' (Ins.RootK ((C01.newLeaves els (a.latestEpoch + 1)).foldl CRoot.insert1 t)) ∧
      ∀ q, Ins.RootK t q → Ins.RootK ((C01.newLeaves els (a.latestEpoch + 1)).foldl CRoot.insert1 t) q := by
  have hrepb : C01.ReprRoot c .directory s.begin t :=
    Pub.reprRoot_getRec_congr c _ s s.begin (Pub.getRec_begin s hidle.1 hidle.2) t hrep
  obtain ⟨s'', n, hrun, _, hs', hchg, hold⟩ := C01.batchInsert_spec c hc .directory s.begin a t hrepb hwf
    (fun lf h => ⟨(hep lf h).1, Nat.le_succ_of_le (hep lf h).2⟩) els hpf hlen hI hs hgk
  rw [hrun] at hins
  cases hins
  exact ⟨hs', hchg, hold⟩

/-- the core of C11 and C13c: what the log shows under the keys of the old tree -/
theorem txn_core (c : Cfg) (hc : c.emptyLabel.len = 0)
    (s : NodeStore) (a : Azks) (t : CRoot)
    (hidle : s.inTxn = false ∧ s.log = [])
    (hrep : C01.ReprRoot c .directory s t) (hwf : t.WF)
    (hat : ∀ k r, s.db.get? k = some r → r.latest.lastEpoch ≤ a.latestEpoch)
    (hep : ∀ lf ∈ t.leaves, 1 ≤ lf.ep ∧ lf.ep ≤ a.latestEpoch)
    (els : List (BitStr × Dig))
    (hpf : C01.PrefixFree (t.leaves ++ C01.newLeaves els (a.latestEpoch + 1)))
    (hlen : ∀ lf ∈ t.leaves ++ C01.newLeaves els (a.latestEpoch + 1), 1 ≤ lf.lbl.length ∧ lf.lbl.length ≤ 256)
    (s' : NodeStore) (a' : Azks)
    (hins : s.begin.batchInsert c .directory a (els.map fun x => (NodeLabel.ofBits x.1, x.2)) = .ok (s', a')) :
    TI s.db (a.latestEpoch + 1) (Ins.RootK t) s' :=
  (insert_in_txn c hc s a t hidle hrep hwf hep els hpf hlen s' a' hins
    (writeInv_TI (Ins.rootK_length hwf (fun lf h => (hlen lf (List.mem_append_left _ h)).2))
      (fun _ r _ hr => Nat.lt_succ_of_le (hat _ r hr)))
    ⟨rfl, rfl, fun _ _ _ _ hl _ => absurd hl (log_begin hidle.2 _ _)⟩
    (Ins.rootK_gk hwf)).1

theorem chg_batchInsert (c : Cfg) (hc : c.emptyLabel.len = 0)
    (s : NodeStore) (a : Azks) (t : CRoot)
    (hidle : s.inTxn = false ∧ s.log = [])
    (hrep : C01.ReprRoot c .directory s t) (hwf : t.WF)
    (hep : ∀ lf ∈ t.leaves, 1 ≤ lf.ep ∧ lf.ep ≤ a.latestEpoch)
    (els : List (BitStr × Dig))
    (hpf : C01.PrefixFree (t.leaves ++ C01.newLeaves els (a.latestEpoch + 1)))
    (hlen : ∀ lf ∈ t.leaves ++ C01.newLeaves els (a.latestEpoch + 1), 1 ≤ lf.lbl.length ∧ lf.lbl.length ≤ 256)
    (s' : NodeStore) (a' : Azks)
    (hins : s.begin.batchInsert c .directory a (els.map fun x => (NodeLabel.ofBits x.1, x.2)) = .ok (s', a')) :
    (∀ k, s'.getRec k ≠ s.begin.getRec k →
      ∃ q, Ins.RootK ((C01.newLeaves els (a.latestEpoch + 1)).foldl CRoot.insert1 t) q ∧ k = NodeLabel.ofBits q) ∧
    ∀ q, Ins.RootK t q → Ins.RootK ((C01.newLeaves els (a.latestEpoch + 1)).foldl CRoot.insert1 t) q :=
  (insert_in_txn c hc s a t hidle hrep hwf hep els hpf hlen s' a' hins
    (Ins.WriteInv.trivial _) trivial (fun _ _ h => h.elim)).2

end Akd.Part
