/-
History requests on a tombstoned directory (C20c): `keyHistory` returns the honest proof for the entries with the
tombstoned values emptied (`Gen.keyHistory_gen_map`), its verification comes down to the loop over the update
proofs (`Gen.history_honest`), and the loop accepts an emptied entry exactly when missing values are allowed.
-/
import AkdModel.Lemmas.GenHistoryVerify
import AkdModel.Thm.C20
namespace Akd.Tomb
open Akd C20 Gen

theorem tombVer_version (cut : Nat) (v : Spec.Ver) : (tombVer cut v).version = v.version := by
  unfold tombVer; split <;> rfl

theorem tombVer_epoch (cut : Nat) (v : Spec.Ver) : (tombVer cut v).epoch = v.epoch := by
  unfold tombVer; split <;> rfl

theorem tombVer_cases (cut : Nat) (v : Spec.Ver) :
    (Spec.tombstoned (some cut) v = false ∧ tombVer cut v = v) ∨
    (Spec.tombstoned (some cut) v = true ∧ v.value ≠ [] ∧ tombVer cut v = { v with value := [] }) := by
  unfold tombVer
  cases h : Spec.tombstoned (some cut) v
  · exact .inl ⟨rfl, rfl⟩
  · simp only [Spec.tombstoned, Bool.and_eq_true, decide_eq_true_eq] at h
    exact .inr ⟨rfl, h.2, rfl⟩

theorem verOf_tf (u : Bytes) (cut : Nat) (s : ValueState) (h : s.username = u) :
    Gen.verOf (tf u cut s) = tombVer cut (Gen.verOf s) := by
  have ht : Spec.tombstoned (some cut) (Gen.verOf s) = true ↔ s.epoch ≤ cut ∧ s.value ≠ [] := by
    simp only [Spec.tombstoned, Bool.and_eq_true, decide_eq_true_eq]
    exact Iff.rfl
  unfold tf tombVer
  by_cases hc : s.epoch ≤ cut ∧ s.value ≠ []
  · rw [if_pos ⟨h, hc⟩, if_pos (ht.2 hc)]; rfl
  · rw [if_neg (fun x => hc x.2), if_neg (fun x => hc (ht.1 x))]

theorem tombVer_of_not_tombstoned {cut : Nat} {v : Spec.Ver} (h : Spec.tombstoned (some cut) v = false) :
    tombVer cut v = v := by
  unfold tombVer; rw [h]; rfl

theorem verifyUpdates_error_of_mem (c : Cfg) (vrf : VrfTable) (root : Dig) (u : Bytes) (allow : Bool)
    (p : UpdateProof) (hp : ∃ e, Verify.singleUpdate c vrf root u allow p = .error e)
    (ups : List UpdateProof) (prev : Option Nat) (hmem : p ∈ ups) :
    ∃ e, Verify.verifyUpdates c vrf root u allow prev ups = .error e := by
  cases h : Verify.verifyUpdates c vrf root u allow prev ups with
  | error e => exact ⟨e, rfl⟩
  | ok rs =>
    obtain ⟨e, he⟩ := hp
    rw [(Snd.verifyUpdates_ok ups prev rs h).2 p hmem] at he
    cases he

section
variable {c : Cfg} {key : Dig} {vrf : VrfTable} {t : CRoot} {u : Bytes} {vs : List Spec.Ver}

theorem tombUpdate_verifies (hv : C06.VrfOK vrf) (hwf : t.WF) (hon : C06.HonestFor c key vrf t u vs)
    (v : Spec.Ver) (hmem : v ∈ vs)
    (hsome : v.version > 1 → (vrf.get? ⟨u, false, v.version - 1⟩).isSome) (cut : Nat) (allow : Bool)
    (h : allow = true ∨ Spec.tombstoned (some cut) v = false) :
    Verify.singleUpdate c vrf (t.rootHash c) u allow (honestUpdate c key vrf t u (tombVer cut v))
      = .ok (C07.resultOf (tombVer cut v)) := by
  rcases tombVer_cases cut v with ⟨-, e⟩ | ⟨ht, -, e⟩
  · rw [e]; exact honestUpdate_verifies hv hwf hon v hmem hsome allow
  · obtain rfl : allow = true := h.resolve_right (by rw [ht]; exact Bool.noConfusion)
    rw [e]
    obtain ⟨-, h2⟩ := fresh_existence hv hwf hon v hmem
    unfold Verify.singleUpdate honestUpdate
    by_cases hgt : v.version > 1
    · have h4 := stale_existence hv hwf hon v hmem hgt (hsome hgt)
      have hle : ¬ v.version ≤ 1 := by omega
      simp only [h2, Bool.true_and, decide_true, if_true, hgt, hle, if_false, h4, C07.resultOf]
    · have hle : v.version ≤ 1 := by omega
      simp only [h2, Bool.true_and, decide_true, if_true, hle, C07.resultOf]

/-- the leaf commits to the true value, so the strict verifier rejects the blanked proof -/
theorem tombUpdate_rejected (hc : c.Lawful) (hv : C06.VrfOK vrf) (hwf : t.WF)
    (hon : C06.HonestFor c key vrf t u vs) (v : Spec.Ver) (hmem : v ∈ vs) (hne : v.value ≠ []) :
    Verify.singleUpdate c vrf (t.rootHash c) u false (honestUpdate c key vrf t u { v with value := [] })
      = .error .membership := by
  obtain ⟨h1, -⟩ := fresh_existence hv hwf hon v hmem
  have hneq : c.leafHash (c.commit [] (c.nonce key (lab vrf u true v.version) v.version [])) v.epoch
      ≠ (t.genMembership c (lab vrf u true v.version).bits).hashVal := by
    rw [h1]
    intro h
    exact hne ((hc.commit_inj _ _ _ _ (hc.leaf_inj _ _ _ _ h).1).1).symm
  unfold Verify.singleUpdate honestUpdate
  simp only [Bool.false_and, Bool.false_eq_true, if_false, Verify.existenceWithVal, hneq, ne_eq,
    not_false_eq_true, if_true]

theorem tombUpdates_verify (hv : C06.VrfOK vrf) (hwf : t.WF) (hon : C06.HonestFor c key vrf t u vs)
    (hstale : ∀ x, 1 ≤ x → x < vs.length → (vrf.get? ⟨u, false, x⟩).isSome)
    (p : HistoryParams) (cut : Nat) (allow : Bool)
    (h : allow = true ∨ ∀ v ∈ C07.expected vs p, Spec.tombstoned (some cut) v = false) :
    Verify.verifyUpdates c vrf (t.rootHash c) u allow none
        (((C07.expected vs p).map (tombVer cut)).map (honestUpdate c key vrf t u))
      = .ok ((C07.expected vs p).map fun v => C07.resultOf (tombVer cut v)) := by
  have hl := verifyUpdates_honest c vrf (t.rootHash c) u allow (honestUpdate c key vrf t u) (fun _ => rfl)
    ((C07.expected vs p).map (tombVer cut)) none ?_ ?_ (fun pe hpe => nomatch hpe)
  · rw [hl, List.map_map]; rfl
  · intro w hw
    obtain ⟨v, hvm, rfl⟩ := List.mem_map.1 hw
    have hvm' := expected_mem vs p hvm
    have hb := hon.versions.version_le hvm'
    exact tombUpdate_verifies hv hwf hon v hvm' (fun hgt => hstale _ (by omega) (by omega)) cut allow
      (h.imp id (fun hn => hn v hvm))
  · rw [List.pairwise_map]
    simp only [tombVer_epoch]
    exact expected_sorted vs hon.versions p

theorem tombUpdates_rejected (hc : c.Lawful) (hv : C06.VrfOK vrf) (hwf : t.WF) (hon : C06.HonestFor c key vrf t u vs)
    (p : HistoryParams) (cut : Nat) (hsome : ∃ v ∈ C07.expected vs p, Spec.tombstoned (some cut) v = true) :
    ∃ e, Verify.verifyUpdates c vrf (t.rootHash c) u false none
        (((C07.expected vs p).map (tombVer cut)).map (honestUpdate c key vrf t u)) = .error e := by
  obtain ⟨v, hvm, htv⟩ := hsome
  rcases tombVer_cases cut v with ⟨hf, -⟩ | ⟨-, hval, e⟩
  · rw [htv] at hf; cases hf
  · exact verifyUpdates_error_of_mem c vrf (t.rootHash c) u false (honestUpdate c key vrf t u (tombVer cut v))
      (by rw [e]; exact ⟨_, tombUpdate_rejected hc hv hwf hon v (expected_mem vs p hvm) hval⟩) _ none
      (List.mem_map_of_mem (List.mem_map_of_mem hvm))

end

/-- `d'` is `d` after akd's `tombstone_value_states(u, cut)`.  The history request still succeeds, with the
unchanged root hash; the mode of the verifier matters only when an entry of the requested range is tombstoned:
then the strict verifier rejects the proof. -/
theorem tombstone_history (c : Cfg) (hc : c.Lawful) (hfresh : C05.EmptyLabelFresh c)
    (d d' : Dir) (sp : Spec.State) (users : List Bytes) (N : Nat)
    (hv : C06.VrfOK d.vrf) (ht : C01.VrfTotal d.vrf users N) (hN : sp.epoch + 1 ≤ N)
    (href : C01.Refines c d sp) (u : Bytes) (hmem : u ∈ users) (hpub : sp.table.get u ≠ [])
    (cut : Nat) (htomb : d.tombstone u cut = .ok d')
    (p : HistoryParams) (hp : ∀ n, p = .mostRecent n → 1 ≤ n) :
    ∃ π, d'.keyHistory c u p = .ok (π, sp.epoch, Spec.rootHash c d.commitmentKey d.vrf sp) ∧
      (∀ allow, (allow = true ∨ ∀ v ∈ C07.expected (sp.table.get u) p, Spec.tombstoned (some cut) v = false) →
        Verify.history c d.vrf (Spec.rootHash c d.commitmentKey d.vrf sp) sp.epoch u π p allow
          = .ok ((C07.expected (sp.table.get u) p).map fun v => C07.resultOf (tombVer cut v))) ∧
      ((∃ v ∈ C07.expected (sp.table.get u) p, Spec.tombstoned (some cut) v = true) →
        ∃ e, Verify.history c d.vrf (Spec.rootHash c d.commitmentKey d.vrf sp) sp.epoch u π p false = .error e) := by
  obtain ⟨past, future, hm, hgen⟩ := keyHistory_gen_map c d sp users N hv ht hN href u hmem hpub p hp
    (tf u cut) (tombVer cut) (tf_username u cut) (tf_epoch u cut) (tf_version u cut) (verOf_tf u cut)
  obtain ⟨hwf, h256, -⟩ := refines_tree_facts c d sp hv href
  have hlen := href.tableOK.length_le u
  have hon := C01.honestFor_of_refines c d sp hv users N ht hN href u hmem
  have hver := fun allow => history_honest hc hfresh hv hwf h256 hon hpub sp.epoch hlen
    (fun x h1 h2 => ht u hmem true x (by omega) (by omega)) p hp allow past future hm
    (((C07.expected (sp.table.get u) p).map (tombVer cut)).map (honestUpdate c d.commitmentKey d.vrf
      (CRoot.ofLeaves (Spec.leaves c d.commitmentKey d.vrf sp.table)) u))
    (by rw [List.map_map, List.map_map]; exact List.map_congr_left (fun v _ => tombVer_version cut v))
  have hstale : ∀ x, 1 ≤ x → x < (sp.table.get u).length → (d.vrf.get? ⟨u, false, x⟩).isSome :=
    fun x h1 h2 => ht u hmem false x h1 (by omega)
  rw [tombstone_ok htomb]
  refine ⟨_, hgen, fun allow h => ?_, fun h => ?_⟩
  · exact (hver allow).trans (tombUpdates_verify hv hwf hon hstale p cut allow h)
  · exact (hver false).symm ▸ tombUpdates_rejected hc hv hwf hon p cut h

end Akd.Tomb
