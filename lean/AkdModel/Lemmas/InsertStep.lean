/-
`insertRec` cut into its phases (C01b), and what the node-level operations (`setChild`,
`getChild`, `updateHash`) compute on represented trees.
-/
import AkdModel.Lemmas.InsertRep
import AkdModel.Lemmas.TrieLemmas
namespace Akd.Ins
open Akd NodeLabel NodeStore

abbrev RecFn := NodeStore → Option NodeLabel → ElementSet Dig → Except Err (NodeStore × TreeNode × Bool × Nat)

/-- Phase 1 of `recursive_batch_insert_nodes` -/
def phase1 (c : Cfg) (epoch : Nat) (s : NodeStore) (nodeLabel : Option NodeLabel) (set : ElementSet Dig) :
    Except Err (NodeStore × TreeNode × Bool × Nat) :=
  match nodeLabel, set.elems with
  | some nl, _ =>
    match s.getNode nl epoch with
    | .error e => .error e
    | .ok existing =>
      let setLcp := set.setLcp c.emptyLabel
      let lcpLabel := NodeLabel.lcp c.emptyLabel nl setLcp
      if lcpLabel.len < nl.len then
        match (TreeNode.newInterior c lcpLabel epoch).setChild existing with
        | .error e => .error e
        | .ok (cur, existing') =>
          match s.writeNode existing' false with
          | .error e => .error e
          | .ok s' => .ok (s', cur, true, 1)
      else .ok (s, existing, false, 0)
  | none, [x] => .ok (s, TreeNode.newLeaf c x.1 x.2 epoch, true, 1)
  | none, _ => .ok (s, TreeNode.newInterior c (set.setLcp c.emptyLabel) epoch, true, 1)

/-- one side of Phase 2 -/
def side (rec : RecFn) (d : Direction) (s : NodeStore) (cur : TreeNode) (num : Nat) (sub : ElementSet Dig) :
    Except Err (NodeStore × TreeNode × Nat) :=
  if sub.elems.isEmpty then .ok (s, cur, num)
  else
    match rec s (cur.childLabel d) sub with
    | .error e => .error e
    | .ok (s, ln, lnew, lnum) =>
      match cur.setChild ln with
      | .error e => .error e
      | .ok (cur, ln) =>
        match s.writeNode ln lnew with
        | .error e => .error e
        | .ok s => .ok (s, cur, num + lnum)

/-- Phases 2 and 3 -/
def phase23 (c : Cfg) (mode : InsertMode) (rec : RecFn) (s : NodeStore) (cur : TreeNode) (isNew : Bool)
    (num : Nat) (set : ElementSet Dig) : Except Err (NodeStore × TreeNode × Bool × Nat) :=
  match side rec .left s cur num (set.partition cur.label).1 with
  | .error e => .error e
  | .ok (s, cur', num) =>
    match side rec .right s cur' num (set.partition cur.label).2 with
    | .error e => .error e
    | .ok (s, cur', num) =>
      match updateHash c s cur' mode with
      | .error e => .error e
      | .ok cur' => .ok (s, cur', isNew, num)

theorem insertRec_succ (c : Cfg) (mode : InsertMode) (epoch fuel : Nat) (s : NodeStore)
    (nl : Option NodeLabel) (set : ElementSet Dig) :
    insertRec c mode epoch (fuel + 1) s nl set =
      match phase1 c epoch s nl set with
      | .error e => .error e
      | .ok (s, cur, isNew, num) => phase23 c mode (insertRec c mode epoch fuel) s cur isNew num set := by
  rfl

theorem setChild_spec (self child : TreeNode) (p q : BitStr) (d : Bool)
    (hs : self.label = ofBits p) (hc : child.label = ofBits q) (hq : q.length ≤ 256)
    (hpq : (p ++ [d]) <+: q) :
    ∃ cur', self.setChild child = .ok (cur', { child with parent := ofBits p }) ∧
      cur'.label = self.label ∧ cur'.nodeType = self.nodeType ∧
      (∀ b, cur'.childLabel (.ofBit b) = if b = d then some child.label else self.childLabel (.ofBit b)) ∧
      cur'.lastEpoch = max self.lastEpoch child.lastEpoch ∧
      cur'.minDescEpoch = (if self.minDescEpoch = 0 then child.minDescEpoch
        else min self.minDescEpoch child.minDescEpoch) := by
  have hp : p.length ≤ 256 := by
    have := hpq.length_le; simp at this; omega
  have ho := prefixOrdering_ofBits p q hp hq
  unfold TreeNode.setChild
  rw [hs, hc]
  cases d
  · rw [ho.1.2 hpq]
    exact ⟨_, rfl, rfl, rfl, fun b => by cases b <;> simp [Direction.ofBit, TreeNode.childLabel], rfl, rfl⟩
  · rw [ho.2.2 hpq]
    exact ⟨_, rfl, rfl, rfl, fun b => by cases b <;> simp [Direction.ofBit, TreeNode.childLabel], rfl, rfl⟩

def olbl (o : Option CTree) : Option NodeLabel := o.map (fun t => ofBits t.lbl)

def oleaves (o : Option CTree) : List Leaf := (o.map CTree.leaves).getD []

def oMax (a b : Option CTree) : Nat := max ((a.map maxEp).getD 0) ((b.map maxEp).getD 0)

/-- the `0` sentinel of `set_child` -/
def oMin (a b : Option CTree) : Nat :=
  match a, b with
  | none, none => 0
  | some x, none => minEp x
  | none, some y => minEp y
  | some x, some y => min (minEp x) (minEp y)

/-- what `update_hash` stores in a node with these children -/
def kidsHash (c : Cfg) (m : InsertMode) (l r : Option CTree) : Dig :=
  c.parentHash (CRoot.childValue c (hm m) l) (CRoot.childLabel c l) (CRoot.childValue c (hm m) r) (CRoot.childLabel c r)

theorem oMax_le (a b : Option CTree) (E : Nat) (h : ∀ lf ∈ oleaves a ++ oleaves b, lf.ep ≤ E) :
    oMax a b ≤ E := by
  have side : ∀ o : Option CTree, (∀ lf ∈ oleaves o, lf.ep ≤ E) → (o.map maxEp).getD 0 ≤ E := by
    intro o ho
    cases o with
    | none => exact Nat.zero_le _
    | some x => exact maxEp_le x E ho
  exact Nat.max_le.2 ⟨side a (fun lf hl => h lf (List.mem_append_left _ hl)),
    side b (fun lf hl => h lf (List.mem_append_right _ hl))⟩

theorem oMax_eq (a b : Option CTree) (E : Nat) (h : ∀ lf ∈ oleaves a ++ oleaves b, lf.ep ≤ E)
    (lf : Leaf) (hlf : lf ∈ oleaves a ++ oleaves b) (he : lf.ep = E) : oMax a b = E := by
  have side : ∀ o : Option CTree, lf ∈ oleaves o → E ≤ (o.map maxEp).getD 0 := by
    intro o ho
    cases o with
    | none => exact absurd ho List.not_mem_nil
    | some x => exact he ▸ le_maxEp x lf ho
  refine Nat.le_antisymm (oMax_le a b E h) ?_
  rcases List.mem_append.1 hlf with hl | hl
  · exact Nat.le_trans (side a hl) (Nat.le_max_left _ _)
  · exact Nat.le_trans (side b hl) (Nat.le_max_right _ _)

theorem oMin_comm (a b : Option CTree) : oMin a b = oMin b a := by
  cases a <;> cases b <;> first | rfl | exact Nat.min_comm _ _

/-- `set_child`'s update of `min_descendant_epoch` (`0`: no child yet) when `x` replaces the first child `a` -/
theorem oMin_step (x : CTree) (a b : Option CTree) (cm epoch : Nat)
    (hinv : cm = oMin a b ∨ (cm = epoch ∧ a = none ∧ b = none)) (hx : minEp x ≤ epoch)
    (ha : ∀ y, a = some y → minEp x ≤ minEp y) (hb : ∀ y, b = some y → 1 ≤ minEp y) :
    (if cm = 0 then minEp x else min cm (minEp x)) = oMin (some x) b := by
  cases a <;> cases b <;>
    simp only [oMin, Option.some.injEq, forall_eq', reduceCtorEq, false_imp_iff, implies_true, and_true, and_false,
      or_false] at hinv ha hb ⊢ <;> grind

theorem azksValue_nodeIs {c : Cfg} {m : InsertMode} {t : CTree} {n : TreeNode} (h : NodeIs c m t n) :
    nodeToAzksValue c (decide (m = .directory)) (some n) = t.azks c (hm m) := by
  cases t with
  | leaf q v e =>
    obtain ⟨_, h2, _, _, h5, h6, _⟩ := h
    cases m <;> simp [nodeToAzksValue, h2, h5, h6, CTree.azks, hm]
  | node q l r =>
    obtain ⟨_, h2, _, _, h5, _, _⟩ := h
    simp [nodeToAzksValue, h2, h5]

theorem rep_getNode {c : Cfg} {m : InsertMode} {s : NodeStore} {t : CTree} {ep : Nat}
    (h : Rep c m s t) (hle : maxEp t ≤ ep) :
    ∃ r, s.getRec (ofBits t.lbl) = some r ∧ NodeIs c m t r.latest ∧ s.getNode (ofBits t.lbl) ep = .ok r.latest := by
  obtain ⟨⟨r, hg, hn⟩, _⟩ := (rep_iff c m s t).1 h
  exact ⟨r, hg, hn, getNode_latest s _ r ep hg (by rw [nodeIs_lastEpoch hn]; exact hle)⟩

theorem getChild_rep (c : Cfg) (m : InsertMode) (s : NodeStore) (o : Option CTree) (ep : Nat)
    (hrep : ∀ t, o = some t → Rep c m s t ∧ maxEp t ≤ ep) (n : TreeNode) (d : Direction)
    (h : n.childLabel d = olbl o) :
    ∃ on, s.getChild n d ep = .ok on ∧
      nodeToAzksValue c (decide (m = .directory)) on = CRoot.childValue c (hm m) o ∧
      nodeToLabel c on = CRoot.childLabel c o := by
  unfold NodeStore.getChild
  rw [h]
  cases o with
  | none => exact ⟨none, rfl, rfl, rfl⟩
  | some t =>
    obtain ⟨r, _, hn, hg⟩ := rep_getNode (hrep t rfl).1 (hrep t rfl).2
    simp only [olbl, Option.map_some]
    rw [hg]
    exact ⟨some r.latest, rfl, azksValue_nodeIs hn, nodeIs_label hn⟩

theorem updateHash_spec (c : Cfg) (m : InsertMode) (s : NodeStore) (n : TreeNode)
    (hty : n.nodeType ≠ .leaf) (ch : Bool → Option CTree) (hch : ∀ d, n.childLabel (.ofBit d) = olbl (ch d))
    (hrep : ∀ d t, ch d = some t → Rep c m s t ∧ maxEp t ≤ n.lastEpoch) :
    updateHash c s n m = .ok { n with hash := kidsHash c m (ch false) (ch true) } := by
  obtain ⟨a, ha, ha1, ha2⟩ := getChild_rep c m s (ch false) n.lastEpoch (hrep false) n .left (hch false)
  obtain ⟨b, hb, hb1, hb2⟩ := getChild_rep c m s (ch true) n.lastEpoch (hrep true) n .right (hch true)
  unfold NodeStore.updateHash kidsHash
  rw [if_neg hty, ha, hb]
  simp only [ha1, ha2, hb1, hb2]

end Akd.Ins
