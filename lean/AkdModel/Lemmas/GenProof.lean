/-
Proof generation over storage: `lcpProof`, `membershipProof`, `nonMembershipProof` compute the
canonical proofs (`CRoot.lcpProof`, `genMembership`, `genNonMembership`).
-/
import AkdModel.Lemmas.GenWalk
namespace Akd.Gen
open Akd NodeLabel NodeStore Ins

theorem lcpProof_eq (c : Cfg) (s : NodeStore) (a : Azks) (label : NodeLabel) :
    s.lcpProof c a label =
      match s.getNode NodeLabel.root a.latestEpoch with
      | .error e => .error e
      | .ok root =>
        match lcpWalk c s label a.latestEpoch 300 root root [] with
        | .error e => .error e
        | .ok r => .ok ((finish r).1.label, ⟨(finish r).1.label, hashOf c (finish r).1, (finish r).2⟩) := by
  unfold NodeStore.lcpProof
  cases s.getNode NodeLabel.root a.latestEpoch with
  | error e => rfl
  | ok root =>
    simp only
    cases lcpWalk c s label a.latestEpoch 300 root root [] with
    | error e => rfl
    | ok r =>
      obtain ⟨cur, prev, sps, equal⟩ := r
      cases equal <;> rfl

theorem lcpProof_refines (c : Cfg) (s : NodeStore) (a : Azks) (t : CRoot) (x : BitStr) (hx : x.length ≤ 256)
    (hrep : C01.ReprRoot c .directory s t) (hwf : t.WF)
    (hl : ∀ lf ∈ t.leaves, lf.lbl.length ≤ 256) (hep : ∀ lf ∈ t.leaves, lf.ep ≤ a.latestEpoch)
    (hnp : ∀ lf ∈ t.leaves, lf.lbl <+: x → lf.lbl = x) :
    s.lcpProof c a (ofBits x) = .ok ((t.lcpProof c x).label, t.lcpProof c x) := by
  obtain ⟨n, hg, hn⟩ := root_of_repRoot c s t a.latestEpoch hrep hep
  obtain ⟨r, nd, h1, h2, h3⟩ := walk_root c s a.latestEpoch t x hx hrep hwf hl hep hnp n hn
  rw [lcpProof_eq, hg]
  simp only [h1, h2, h3.label, h3.hash, lcpProof_eq_pos]

theorem membershipProof_core (c : Cfg) (s : NodeStore) (a : Azks) (t : CRoot) (x : BitStr) (hx : x.length ≤ 256)
    (hrep : C01.ReprRoot c .directory s t) (hwf : t.WF)
    (hl : ∀ lf ∈ t.leaves, lf.lbl.length ≤ 256) (hep : ∀ lf ∈ t.leaves, lf.ep ≤ a.latestEpoch)
    (hnp : ∀ lf ∈ t.leaves, lf.lbl <+: x → lf.lbl = x) :
    s.membershipProof c a (ofBits x) = .ok (t.genMembership c x) := by
  unfold NodeStore.membershipProof
  rw [lcpProof_refines c s a t x hx hrep hwf hl hep hnp]
  rfl

theorem rep_sub {c : Cfg} {m : InsertMode} {s : NodeStore} {d a : CTree} (h : CTree.Sub d a)
    (hr : Rep c m s a) : Rep c m s d := by
  induction h with
  | refl => exact hr
  | left q r _ ih => exact ih hr.2.1
  | right q l _ ih => exact ih hr.2.2

theorem maxEp_sub {d a : CTree} (h : CTree.Sub d a) : maxEp d ≤ maxEp a := by
  induction h with
  | refl => exact Nat.le_refl _
  | left q r _ ih => simp only [maxEp]; omega
  | right q l _ ih => simp only [maxEp]; omega

/-- the child lookup of `get_non_membership_proof`: unlike `NodeStore.childElement` (the sibling lookup of the
walk), it reads the child a second time, by its label, and takes label and digest from that record -/
def childEl (c : Cfg) (s : NodeStore) (ep : Nat) (n : TreeNode) (d : Direction) : Except Err AzksElement :=
  match s.getChildForProof n d ep with
  | .error e => .error e
  | .ok none => .ok ⟨c.emptyLabel, c.emptyNodeHash⟩
  | .ok (some ch) =>
    match s.getNode ch.label ep with
    | .error e => .error e
    | .ok u => .ok ⟨u.label, nodeToAzksValue c true (some u)⟩

theorem nonMembershipProof_eq (c : Cfg) (s : NodeStore) (a : Azks) (label : NodeLabel) :
    s.nonMembershipProof c a label =
      match s.lcpProof c a label with
      | .error e => .error e
      | .ok (lcpLabel, mp) =>
        match s.getNode lcpLabel a.latestEpoch with
        | .error e => .error e
        | .ok n =>
          match childEl c s a.latestEpoch n .left, childEl c s a.latestEpoch n .right with
          | .ok c0, .ok c1 => .ok ⟨label, n.label, c0, c1, mp⟩
          | .error e, _ => .error e
          | _, .error e => .error e := rfl

theorem childEl_rep (c : Cfg) (s : NodeStore) (o : Option CTree) (ep : Nat)
    (hrep : ∀ t, o = some t → Rep c .directory s t ∧ maxEp t ≤ ep) (n : TreeNode) (d : Direction)
    (h : n.childLabel d = olbl o) :
    childEl c s ep n d = .ok (CRoot.element c o) := by
  unfold childEl
  cases o with
  | none =>
    rw [getChildForProof_of_label_none (by rw [h]; rfl)]
    rfl
  | some t =>
    obtain ⟨hr, hm⟩ := hrep t rfl
    obtain ⟨nt, h1, h2⟩ := getChild_some c .directory s t ep hr hm n d h
    obtain ⟨u, h3, h4⟩ := getNode_rep c .directory s t ep hr hm
    rw [getChildForProof_of_getChild_some h1]
    simp only [nodeIs_label h2, h3]
    exact congrArg Except.ok (element_nodeIs h4)

theorem path_rep (c : Cfg) (s : NodeStore) (t : CRoot) (ep : Nat) (x : BitStr)
    (hrep : C01.ReprRoot c .directory s t) (hwf : t.WF) (hep : ∀ lf ∈ t.leaves, lf.ep ≤ ep) :
    ∃ n, s.getNode (posLabel (t.path c x).1) ep = .ok n ∧ PosIs c t (t.path c x).1 n ∧
      ∀ b t', posKid t (t.path c x).1 b = some t' → Rep c .directory s t' ∧ maxEp t' ≤ ep := by
  rcases CRoot.path_fst c t hwf x with ⟨hnone, -⟩ | ⟨ch, hch, -, hsome⟩
  · obtain ⟨n, hg, hn⟩ := root_of_repRoot c s t ep hrep hep
    rw [hnone]
    exact ⟨n, hg, hn, side_rep c s t ep hrep hep⟩
  · obtain ⟨b, hb⟩ := CRoot.child_iff_side.1 hch
    obtain ⟨hrc, hmc⟩ := side_rep c s t ep hrep hep b ch hb
    have hsub := CTree.path_sub c x ch
    have hrd := rep_sub hsub hrc
    have hmd : maxEp (ch.path c x).1 ≤ ep := Nat.le_trans (maxEp_sub hsub) hmc
    rw [hsome]
    generalize (ch.path c x).1 = d at hrd hmd
    obtain ⟨n, hg, hn⟩ := getNode_rep c .directory s d ep hrd hmd
    refine ⟨n, hg, .of_nodeIs hn, fun b t' h => ?_⟩
    cases d with
    | leaf q v e => cases h
    | node q l r =>
      cases h
      exact ⟨rep_child hrd b, Nat.le_trans (maxEp_child q l r b) hmd⟩

theorem nonMembershipProof_core (c : Cfg) (s : NodeStore) (a : Azks) (t : CRoot) (x : BitStr) (hx : x.length ≤ 256)
    (hrep : C01.ReprRoot c .directory s t) (hwf : t.WF)
    (hl : ∀ lf ∈ t.leaves, lf.lbl.length ≤ 256) (hep : ∀ lf ∈ t.leaves, lf.ep ≤ a.latestEpoch)
    (hnp : ∀ lf ∈ t.leaves, lf.lbl <+: x → lf.lbl = x) :
    s.nonMembershipProof c a (ofBits x) = .ok (t.genNonMembership c x) := by
  obtain ⟨n, hg, hn, hk⟩ := path_rep c s t a.latestEpoch x hrep hwf hep
  rw [nonMembershipProof_eq, lcpProof_refines c s a t x hx hrep hwf hl hep hnp, genNonMembership_eq_pos]
  simp only [lcpProof_eq_pos, hg, childEl_rep c s _ a.latestEpoch (hk false) n .left (hn.kid false),
    childEl_rep c s _ a.latestEpoch (hk true) n .right (hn.kid true), hn.label]

end Akd.Gen
