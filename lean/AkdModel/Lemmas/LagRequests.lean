/-
C13c: the requests of a directory whose node store shows what another one shows, or "not found" (`C13.ViewLe`):
the same answers, or errors (`LeR`).  Then the stores of `legacy_lag_witness`.
-/
import AkdModel.Lemmas.PartialRequests
import AkdModel.Lemmas.PartialView
namespace Akd.Lag
open Akd NodeStore Part

/-- "the same answer, or an error" -/
def LeR {ε α : Type} (r' r : Except ε α) : Prop := r' = r ∨ ∃ x, r' = .error x

theorem LeR.rfl' {ε α : Type} (r : Except ε α) : LeR r r := .inl rfl

theorem LeR.err {ε α : Type} (x : ε) (r : Except ε α) : LeR (.error x) r := .inr ⟨x, rfl⟩

theorem LeN.leR {α : Type} {r' r : Except Err α} (h : LeN r' r) : LeR r' r :=
  h.imp id fun h => ⟨_, h⟩

theorem LeR.bind {ε α β : Type} {x' x : Except ε α} {f' f : α → Except ε β} (hx : LeR x' x)
    (hf : ∀ v, LeR (f' v) (f v)) : LeR (x' >>= f') (x >>= f) := by
  rcases hx with rfl | ⟨e, rfl⟩
  · cases x' with
    | error e => exact LeR.rfl' _
    | ok v => exact hf v
  · exact LeR.err _ _

theorem LeR.liftT {α : Type} {x' x : Except Err α} (hx : LeR x' x) : LeR (Dir.liftT x') (Dir.liftT x) := by
  rcases hx with rfl | ⟨e, rfl⟩
  · exact LeR.rfl' _
  · exact LeR.err _ _

theorem LeR.mapM {ε α β : Type} {f' f : α → Except ε β} (hf : ∀ v, LeR (f' v) (f v)) (l : List α) :
    LeR (l.mapM f') (l.mapM f) := by
  induction l with
  | nil => exact LeR.rfl' _
  | cons x xs ih =>
    rw [List.mapM_cons, List.mapM_cons]
    exact LeR.bind (hf x) (fun v => LeR.bind ih (fun _ => LeR.rfl' _))

theorem LeR.ite {ε α : Type} {p : Prop} [Decidable p] {a' a b' b : Except ε α} (ha : LeR a' a) (hb : LeR b' b) :
    LeR (if p then a' else b') (if p then a else b) := by
  by_cases h : p
  · rw [if_pos h, if_pos h]; exact ha
  · rw [if_neg h, if_neg h]; exact hb

/-- one step of "the same request on two node stores": leaves by hypothesis, the rest by monotonicity -/
macro "lag_mono" hr:ident hm:ident hn:ident : tactic =>
  `(tactic| repeat' (first
      | with_reducible exact LeR.rfl' _ | exact LeR.rfl' (Dir.vrfLabel _ _ _ _) | exact $hr | exact $hm _ | exact $hn _
      | apply LeR.liftT | apply LeR.ite | apply LeR.bind | apply LeR.mapM | intro _ | split))

theorem epochHash_le (c : Cfg) (nodes ns : NodeStore) (a : Azks) (st : List ValueState) (vrf : VrfTable) (ck : Dig)
    (hr : LeR (ns.rootHash c a) (nodes.rootHash c a)) :
    LeR (Dir.epochHash c ⟨ns, some a, st, vrf, ck⟩) (Dir.epochHash c ⟨nodes, some a, st, vrf, ck⟩) := by
  unfold Dir.epochHash
  simp only
  exact LeR.bind (LeR.liftT hr) (fun _ => LeR.rfl' _)

theorem lookup_le (c : Cfg) (nodes ns : NodeStore) (a : Azks) (st : List ValueState) (vrf : VrfTable) (ck : Dig)
    (u : Bytes) (hr : LeR (ns.rootHash c a) (nodes.rootHash c a))
    (hm : ∀ l, LeR (ns.membershipProof c a l) (nodes.membershipProof c a l))
    (hn : ∀ l, LeR (ns.nonMembershipProof c a l) (nodes.nonMembershipProof c a l)) :
    LeR (Dir.lookup c ⟨ns, some a, st, vrf, ck⟩ u) (Dir.lookup c ⟨nodes, some a, st, vrf, ck⟩ u) := by
  unfold Dir.lookup Dir.stateLeq
  dsimp only
  split
  · exact LeR.bind (LeR.rfl' _) fun le => LeR.bind (LeR.rfl' _) fun lm => LeR.bind (LeR.rfl' _) fun ln =>
      LeR.bind (LeR.liftT hr) fun _ => LeR.bind (LeR.liftT (hm le)) fun _ => LeR.bind (LeR.liftT (hm lm)) fun _ =>
      LeR.bind (LeR.liftT (hn ln)) fun _ => LeR.rfl' _
  · exact LeR.rfl' _

theorem updateProof_le (c : Cfg) (nodes ns : NodeStore) (a : Azks) (st : List ValueState) (vrf : VrfTable) (ck : Dig)
    (u : Bytes) (hm : ∀ l, LeR (ns.membershipProof c a l) (nodes.membershipProof c a l)) (x : ValueState) :
    LeR (Dir.updateProof c ⟨ns, some a, st, vrf, ck⟩ a u x) (Dir.updateProof c ⟨nodes, some a, st, vrf, ck⟩ a u x) := by
  unfold Dir.updateProof
  refine LeR.bind (LeR.rfl' _) fun le => LeR.bind (LeR.liftT (hm le)) fun _ => ?_
  split
  · exact LeR.bind (LeR.rfl' _) fun lp => LeR.bind (LeR.liftT (hm lp)) fun _ => LeR.rfl' _
  · exact LeR.rfl' _

/-- the early exits of `keyHistory` do not read the node store; the proofs are then generated one after the other -/
theorem keyHistory_le (c : Cfg) (nodes ns : NodeStore) (a : Azks) (st : List ValueState) (vrf : VrfTable) (ck : Dig)
    (u : Bytes) (p : HistoryParams) (hr : LeR (ns.rootHash c a) (nodes.rootHash c a))
    (hm : ∀ l, LeR (ns.membershipProof c a l) (nodes.membershipProof c a l))
    (hn : ∀ l, LeR (ns.nonMembershipProof c a l) (nodes.nonMembershipProof c a l)) :
    LeR (Dir.keyHistory c ⟨ns, some a, st, vrf, ck⟩ u p) (Dir.keyHistory c ⟨nodes, some a, st, vrf, ck⟩ u p) := by
  unfold Dir.keyHistory
  refine LeR.ite (LeR.err _ _) ?_
  -- keep the collected states as a local definition: `dsimp only` would copy them to every place they are used
  dsimp -zeta only
  extract_lets _ data
  split
  · refine LeR.ite (LeR.err _ _) ?_
    dsimp only
    split
    · exact LeR.bind (LeR.mapM (updateProof_le c nodes ns a st vrf ck u hm) _) fun _ =>
        LeR.bind (LeR.mapM (fun _ => LeR.bind (LeR.rfl' _) fun l => LeR.liftT (hm l)) _) fun _ =>
        LeR.bind (LeR.mapM (fun _ => LeR.bind (LeR.rfl' _) fun l => LeR.liftT (hn l)) _) fun _ =>
        LeR.bind (LeR.liftT hr) fun _ => LeR.rfl' _
    · exact LeR.rfl' _
  · exact LeR.rfl' _

theorem audit_le (c : Cfg) (nodes ns : NodeStore) (a : Azks) (st : List ValueState) (vrf : VrfTable) (ck : Dig)
    (s0 e0 : Nat) (ha : LeR (ns.appendOnlyProof c a s0 e0) (nodes.appendOnlyProof c a s0 e0)) :
    LeR (Dir.audit c ⟨ns, some a, st, vrf, ck⟩ s0 e0) (Dir.audit c ⟨nodes, some a, st, vrf, ck⟩ s0 e0) := by
  unfold Dir.audit
  simp only
  refine LeR.ite (LeR.err _ _) (LeR.ite (LeR.err _ _) (LeR.liftT ha))

/-- a lagging instance: same epoch record, VRF table and commitment key; a node store that shows what the other shows,
or nothing; value states of later epochs besides -/
theorem requests_le (c : Cfg) (nodes ns : NodeStore) (a : Azks) (states extra : List ValueState) (vrf : VrfTable)
    (ck : Dig) (hle : C13.ViewLe nodes ns a.latestEpoch) (hextra : ∀ x ∈ extra, a.latestEpoch < x.epoch) :
    LeR (Dir.epochHash c ⟨ns, some a, states ++ extra, vrf, ck⟩) (Dir.epochHash c ⟨nodes, some a, states, vrf, ck⟩) ∧
    (∀ u, LeR (Dir.lookup c ⟨ns, some a, states ++ extra, vrf, ck⟩ u)
      (Dir.lookup c ⟨nodes, some a, states, vrf, ck⟩ u)) ∧
    (∀ u p, LeR (Dir.keyHistory c ⟨ns, some a, states ++ extra, vrf, ck⟩ u p)
      (Dir.keyHistory c ⟨nodes, some a, states, vrf, ck⟩ u p)) ∧
    (∀ s0 e0, LeR (Dir.audit c ⟨ns, some a, states ++ extra, vrf, ck⟩ s0 e0)
      (Dir.audit c ⟨nodes, some a, states, vrf, ck⟩ s0 e0)) := by
  obtain ⟨e1, e2, e3, e4⟩ := Part.requests_congr c ns ns a states extra vrf ck rfl (fun _ => rfl) (fun _ => rfl)
    (fun _ _ => rfl) hextra
  have hr := (rootHash_le c a hle).leR
  have hm := fun l => (membershipProof_le c a hle l).leR
  have hn := fun l => (nonMembershipProof_le c a hle l).leR
  refine ⟨?_, fun u => ?_, fun u p => ?_, fun s0 e0 => ?_⟩
  · rw [e1]
    exact epochHash_le c nodes ns a _ vrf ck hr
  · rw [e2]
    exact lookup_le c nodes ns a states vrf ck u hr hm hn
  · rw [e3]
    exact keyHistory_le c nodes ns a states vrf ck u p hr hm hn
  · rw [e4]
    exact audit_le c nodes ns a _ vrf ck s0 e0 (appendOnlyProof_le c a hle s0 e0).leR

/-! ### the lagging view of `legacy_lag_witness`: a root `rl` and one child `cl`, rewritten twice since

The labels are variables: with concrete labels every comparison of terms that contain a lookup makes the kernel decide
an equality of 32-byte labels. -/

section
variable (rl cl : NodeLabel)

/-- a root (epoch 1) that names a right child -/
def exRoot : TreeNode := ⟨rl, 1, 1, rl, .root, none, some cl, .raw []⟩
/-- the child as written at epoch `e` -/
def exCh (e : Nat) : TreeNode := ⟨cl, e, 1, rl, .leaf, none, none, .raw []⟩
/-- the store at epoch 1 -/
def exS : NodeStore := { db := [(rl, ⟨rl, exRoot rl cl, none⟩), (cl, ⟨cl, exCh rl cl 1, none⟩)] }
/-- later: the child was rewritten at epochs 2 and 3 (the root record as a partially warm reader still holds it) -/
def exS' : NodeStore := { db := [(rl, ⟨rl, exRoot rl cl, none⟩), (cl, ⟨cl, exCh rl cl 3, some (exCh rl cl 2)⟩)] }

theorem ex_root : (exS rl cl).getNode rl 1 = .ok (exRoot rl cl) := by
  simp [NodeStore.getNode, NodeStore.getRec, exS, NodeMap.get?, NodeRec.resolve, exRoot]

variable {rl cl} (hne : rl ≠ cl)
include hne

theorem ex_child : (exS rl cl).getNode cl 1 = .ok (exCh rl cl 1) := by
  simp [NodeStore.getNode, NodeStore.getRec, exS, NodeMap.get?, hne, NodeRec.resolve, exCh]

theorem ex_child' : (exS' rl cl).getNode cl 1 = .error .notFound := by
  simp [NodeStore.getNode, NodeStore.getRec, exS', NodeMap.get?, hne, NodeRec.resolve, exCh]

theorem ex_viewLe : C13.ViewLe (exS rl cl) (exS' rl cl) 1 := by
  intro k
  by_cases hk : cl = k
  · subst hk
    exact .inr (by rw [C11.readAt, ex_child' hne])
  · left
    simp [C11.readAt, NodeStore.getNode, NodeStore.getRec, exS, exS', NodeMap.get?, hk]

theorem ex_getChild : (exS' rl cl).getChild (exRoot rl cl) .right 1 = .ok none := by
  simp only [NodeStore.getChild, exRoot, TreeNode.childLabel, ex_child' hne]

theorem ex_getChildForProof : (exS' rl cl).getChildForProof (exRoot rl cl) .right 1 = .error .notFound := by
  rw [NodeStore.getChildForProof, ex_getChild hne]
  rfl

end

/-- the label `1` -/
def exCl : NodeLabel := ⟨Vector.ofFn fun (i : Fin 32) => if i.val = 0 then 128 else 0, 1⟩

theorem exCl_ne : NodeLabel.root ≠ exCl := fun h => absurd (congrArg NodeLabel.len h) (by decide)

end Akd.Lag
