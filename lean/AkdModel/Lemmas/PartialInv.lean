/-
C11, C13c: the transaction invariant.  `D` is the database (not touched inside the transaction), `epoch` the epoch
being written, `K` the labels (bit strings) of the nodes that existed before.  `TI` says that every log record under a
pre-existing key `Shows` the database record: as of `epoch - 1` it shows the version the database holds (modulo
`parent`), as of every earlier epoch what the database record shows, or nothing.  The three kinds of writes an
insertion performs preserve `TI`:
* a write under a key that is not pre-existing;
* `writeNode n false` with `n.lastEpoch = epoch`: `previous` becomes the as-of-`epoch - 1` view;
* `writeNode n false` where `n` is the stored latest version up to `parent` — the decompression rewrite.
-/
import AkdModel.Thm.C13
import AkdModel.Lemmas.PartialStore
namespace Akd.Part
open Akd NodeLabel NodeStore
open Akd.C13 (eraseParent)
open Akd.Ins (olbl oleaves)

/-- what a later record shows at some epoch against what the database record shows: the same version (modulo
`parent`), or, unless `strict`, nothing -/
def Sim (strict : Prop) (x y : Except Err TreeNode) : Prop :=
  (¬ strict ∧ x = .error .notFound) ∨ ∃ n m, x = .ok n ∧ y = .ok m ∧ eraseParent n = eraseParent m

/-- as of every epoch before `epoch` the record `r'` shows what `r` shows, or nothing; as of `epoch - 1` it shows
what `r` shows -/
def Shows (epoch : Nat) (r' r : NodeRec) : Prop :=
  ∀ e, e < epoch → Sim (e + 1 = epoch) (r'.resolve e) (r.resolve e)

theorem shows_self {epoch : Nat} {r : NodeRec} (h : r.latest.lastEpoch < epoch) : Shows epoch r r := by
  intro e he
  rcases r.resolve_cases e with ⟨n, hn⟩ | hn
  · exact .inr ⟨n, n, hn, hn, rfl⟩
  · refine .inl ⟨fun hst => ?_, hn⟩
    rw [C13.resolve_current r e (by omega)] at hn
    cases hn

/-- the record `writeNode n false` puts in the place of `r0`, when `n` is of the new epoch or is the latest version
of `r0` up to `parent`.  At the epochs from `n.lastEpoch` on it shows `n`, which is what `r0` showed as of `epoch - 1`;
before, it shows what `r0` showed one epoch before `n`, if that version is old enough, and nothing otherwise. -/
theorem shows_write {epoch : Nat} {r0 r : NodeRec} (h0 : Shows epoch r0 r) {n : TreeNode} (l : NodeLabel)
    (hle : n.lastEpoch ≤ epoch) (hn : n.lastEpoch = epoch ∨ eraseParent n = eraseParent r0.latest) :
    Shows epoch ⟨l, n, (r0.resolve (if n.lastEpoch > 0 then n.lastEpoch - 1 else n.lastEpoch)).toOption⟩ r := by
  intro e he
  by_cases hcur : n.lastEpoch ≤ e
  · have her : eraseParent n = eraseParent r0.latest := hn.resolve_left (Nat.ne_of_lt (Nat.lt_of_le_of_lt hcur he))
    obtain ⟨E, rfl⟩ : ∃ E, epoch = E + 1 := ⟨epoch - 1, (Nat.sub_add_cancel (Nat.zero_lt_of_lt he)).symm⟩
    rcases h0 E (Nat.lt_succ_self E) with ⟨hst, _⟩ | ⟨n0, m, h1, h2, h3⟩
    · exact absurd rfl hst
    · have h0e := C13.lastEpoch_of_eraseParent_eq her
      rw [C13.resolve_current r0 E (by omega)] at h1
      cases h1
      have hm := C13.lastEpoch_of_eraseParent_eq h3
      exact .inr ⟨n, m, C13.resolve_current _ e hcur, resolve_down h2 (by omega) (by omega), her.trans h3⟩
  · have hlt : e < n.lastEpoch := Nat.lt_of_not_le hcur
    obtain ⟨t, ht⟩ : ∃ t, n.lastEpoch = t + 1 := ⟨n.lastEpoch - 1, (Nat.sub_add_cancel (Nat.zero_lt_of_lt hlt)).symm⟩
    rw [ht, if_pos (Nat.succ_pos t), Nat.add_sub_cancel]
    rcases h0 t (by omega) with ⟨hst, h1⟩ | ⟨p, m, h1, h2, h3⟩
    · exact .inl ⟨by omega, C13.resolve_of_lt_none _ e hlt (congrArg Except.toOption h1)⟩
    · rw [C13.resolve_of_lt_some _ e p hlt (congrArg Except.toOption h1)]
      have hp := resolve_le h1
      have hm := C13.lastEpoch_of_eraseParent_eq h3
      by_cases hpe : p.lastEpoch > e
      · exact .inl ⟨by omega, if_pos hpe⟩
      · exact .inr ⟨p, m, if_neg hpe, resolve_down h2 (by omega) (by omega), h3⟩

/-- the log records under pre-existing keys show the database records -/
def TI (D : NodeMap) (epoch : Nat) (K : BitStr → Prop) (s : NodeStore) : Prop :=
  s.db = D ∧ s.inTxn = true ∧
  ∀ q r' r, K q → s.log.get? (ofBits q) = some r' → D.get? (ofBits q) = some r → Shows epoch r' r

/-- the database is at the previous epoch (on the pre-existing keys) -/
def DbAt (D : NodeMap) (epoch : Nat) (K : BitStr → Prop) : Prop :=
  ∀ q r, K q → D.get? (ofBits q) = some r → r.latest.lastEpoch < epoch

section
variable {D : NodeMap} {epoch : Nat} {K : BitStr → Prop}

theorem ti_view (hD : DbAt D epoch K) {s : NodeStore} (hs : TI D epoch K s) {q : BitStr} (hq : K q)
    {r0 r : NodeRec} (h0 : s.getRec (ofBits q) = some r0) (hr : D.get? (ofBits q) = some r) : Shows epoch r0 r := by
  rcases getRec_txn hs.2.1 h0 with hl | ⟨_, hd⟩
  · exact hs.2.2 q r0 r hq hl hr
  · rw [hs.1, hr] at hd
    cases hd
    exact shows_self (hD q _ hq hr)

theorem getRec_of_db {s : NodeStore} (hs : TI D epoch K s) {k : NodeLabel} {r : NodeRec}
    (hr : D.get? k = some r) : ∃ r0, s.getRec k = some r0 := by
  unfold NodeStore.getRec
  rw [if_pos hs.2.1]
  cases s.log.get? k with
  | some r' => exact ⟨r', rfl⟩
  | none => exact ⟨r, by rw [hs.1]; exact hr⟩

theorem ti_setRec {s : NodeStore} (hs : TI D epoch K s) (r' : NodeRec)
    (h : ∀ q r, K q → r'.label = ofBits q → D.get? (ofBits q) = some r → Shows epoch r' r) :
    TI D epoch K (s.setRec r') := by
  refine ⟨(db_setRec s r' hs.2.1).1.trans hs.1, (db_setRec s r' hs.2.1).2, ?_⟩
  intro q r1 r hq hl hd
  rw [log_setRec s r' hs.2.1] at hl
  by_cases hk : ofBits q = r'.label
  · rw [if_pos hk] at hl
    cases hl
    exact h q r hq hk.symm hd
  · rw [if_neg hk] at hl
    exact hs.2.2 q r1 r hq hl hd

theorem ti_writeNode (hD : DbAt D epoch K) {s s' : NodeStore} (hs : TI D epoch K s) {n : TreeNode}
    (hle : n.lastEpoch ≤ epoch)
    (hn : n.lastEpoch = epoch ∨ ∃ r0, s.getRec n.label = some r0 ∧ eraseParent n = eraseParent r0.latest)
    (hw : s.writeNode n false = .ok s') : TI D epoch K s' := by
  cases h0 : s.getRec n.label with
  | none =>
    obtain ⟨p, hp⟩ := s.writeNode_ok n false
    cases hp.symm.trans hw
    refine ti_setRec hs _ fun q r _ hl hd => ?_
    obtain ⟨r0, h1⟩ := getRec_of_db hs hd
    rw [← (hl : n.label = ofBits q), h0] at h1
    cases h1
  | some r0 =>
    cases (s.writeNode_old n r0 h0).symm.trans hw
    refine ti_setRec hs _ fun q r hq hl hd => ?_
    have hl : n.label = ofBits q := hl
    exact shows_write (ti_view hD hs hq (hl ▸ h0) hd) _ hle
      (hn.imp_right fun ⟨r1, h1, h⟩ => by cases h0.symm.trans h1; exact h)

theorem writeInv_TI (hK : ∀ q, K q → q.length ≤ 256) (hD : DbAt D epoch K) :
    Ins.WriteInv epoch K (TI D epoch K) where
  fresh r _ hs hl hq hn :=
    ti_setRec hs r fun q' _ hq' h _ => absurd (NodeLabel.ofBits_inj hq (hK q' hq') (hl.symm.trans h) ▸ hq') hn
  atEpoch hs hn hw := ti_writeNode hD hs (Nat.le_of_eq hn) (.inl hn) hw
  reparent {_ _ r0} p hs h0 hle hw :=
    ti_writeNode hD hs (n := { r0.latest with parent := p }) hle (.inr ⟨r0, h0, rfl⟩) hw

end

end Akd.Part
