/-
Proof generation over storage: the walk of `get_lcp_node_label_with_membership_proof`
(`NodeStore.lcpWalk`) on a represented tree follows the canonical `CTree.path` / `CRoot.path`.
-/
import AkdModel.Thm.C01b
import AkdModel.Lemmas.TrieLemmas
namespace Akd.Gen
open Akd NodeLabel NodeStore Ins

/-- the post-processing of `get_lcp_node_label_with_membership_proof` after the loop -/
def finish (r : TreeNode × TreeNode × List SiblingProof × Bool) : TreeNode × List SiblingProof :=
  if r.2.2.2 then (r.1, r.2.2.1) else (r.2.1, r.2.2.1.dropLast)

/-- the digest a proof carries for a node: a leaf's value is hashed with its epoch
(`get_lcp_node_label_with_membership_proof`, append_only_zks.rs:1337-1341) -/
def hashOf (c : Cfg) (n : TreeNode) : Dig :=
  if n.nodeType = .leaf then c.leafHash n.hash n.lastEpoch else n.hash

/-! A position of the canonical trie is the root (`none`) or a node below it.  The walk ends at a position;
the two proof generators read the label, the digest and the two child slots of the node stored there. -/

def posLabel : Option CTree → NodeLabel
  | none => NodeLabel.root
  | some d => ofBits d.lbl

def posValue (c : Cfg) (t : CRoot) : Option CTree → Dig
  | none => t.value c .withLeafEpoch
  | some d => d.azks c .withLeafEpoch

def posKid (t : CRoot) : Option CTree → Bool → Option CTree
  | none, b => (t.side b).1
  | some (.node _ l r), b => some (CTree.child l r b)
  | some (.leaf _ _ _), _ => none

/-- `n` is the node stored at position `o` of `t`, as far as proof generation reads it -/
structure PosIs (c : Cfg) (t : CRoot) (o : Option CTree) (n : TreeNode) : Prop where
  label : n.label = posLabel o
  hash : hashOf c n = posValue c t o
  kid : ∀ b, n.childLabel (.ofBit b) = olbl (posKid t o b)

theorem nodeIs_kid {c m q l r n} (h : NodeIs c m (.node q l r) n) :
    ∀ b, n.childLabel (.ofBit b) = some (ofBits (CTree.child l r b).lbl)
  | false => h.2.2.1
  | true => h.2.2.2.1

theorem PosIs.of_nodeIs {c : Cfg} {t : CRoot} {d : CTree} {n : TreeNode} (h : NodeIs c .directory d n) :
    PosIs c t (some d) n := by
  have hv := azksValue_nodeIs h
  simp only [decide_true, nodeToAzksValue, Bool.and_true, decide_eq_true_eq] at hv
  cases d with
  | leaf q v e => exact ⟨h.1, hv, fun | false => h.2.2.1 | true => h.2.2.2.1⟩
  | node q l r => exact ⟨h.1, hv, nodeIs_kid h⟩

theorem lcpProof_eq_pos (c : Cfg) (t : CRoot) (x : BitStr) :
    t.lcpProof c x = ⟨posLabel (t.path c x).1, posValue c t (t.path c x).1, (t.path c x).2⟩ := by
  unfold CRoot.lcpProof
  split <;> rename_i h <;> rw [h] <;> rfl

theorem genNonMembership_eq_pos (c : Cfg) (t : CRoot) (x : BitStr) :
    t.genNonMembership c x = ⟨ofBits x, posLabel (t.path c x).1, CRoot.element c (posKid t (t.path c x).1 false),
      CRoot.element c (posKid t (t.path c x).1 true), t.lcpProof c x⟩ := by
  unfold CRoot.genNonMembership
  rw [lcpProof_eq_pos]
  generalize (t.path c x).1 = o
  rcases o with _ | ⟨_ | _⟩ <;> rfl

theorem getChildForProof_of_getChild_some {s : NodeStore} {n : TreeNode} {d : Direction} {e : Nat} {ch : TreeNode}
    (h : s.getChild n d e = .ok (some ch)) : s.getChildForProof n d e = .ok (some ch) := by
  unfold NodeStore.getChildForProof
  rw [h]

theorem getChildForProof_of_label_none {s : NodeStore} {n : TreeNode} {d : Direction} {e : Nat}
    (h : n.childLabel d = none) : s.getChildForProof n d e = .ok none := by
  unfold NodeStore.getChildForProof NodeStore.getChild
  rw [h]
  rfl

theorem getChildForProof_error {s : NodeStore} {n : TreeNode} {d : Direction} {e : Nat} {x : Err}
    (h : s.getChild n d e = .error x) : s.getChildForProof n d e = .error x := by
  unfold NodeStore.getChildForProof
  rw [h]

theorem lcpWalk_equal (c : Cfg) (s : NodeStore) (label : NodeLabel) (ep f : Nat) (cur prev : TreeNode)
    (sps : List SiblingProof) (h : label = cur.label) :
    lcpWalk c s label ep (f + 1) cur prev sps = .ok (cur, prev, sps, true) := by
  simp only [lcpWalk, h, decide_true, Bool.true_or, if_true]

theorem lcpWalk_invalid (c : Cfg) (s : NodeStore) (label : NodeLabel) (ep f : Nat) (cur prev : TreeNode)
    (sps : List SiblingProof) (hne : label ≠ cur.label) (h : cur.label.prefixOrdering label = .invalid) :
    lcpWalk c s label ep (f + 1) cur prev sps = .ok (cur, prev, sps, false) := by
  simp only [lcpWalk, h, hne, decide_false, Bool.false_or, decide_true, if_true]

theorem lcpWalk_succ (c : Cfg) (s : NodeStore) (label : NodeLabel) (ep f : Nat) (cur prev : TreeNode)
    (sps : List SiblingProof) (b : Bool) (hne : label ≠ cur.label)
    (h : cur.label.prefixOrdering label = (if b then .withOne else .withZero)) :
    lcpWalk c s label ep (f + 1) cur prev sps =
      match s.getChildForProof cur (.ofBit b) ep with
      | .error e => .error e
      | .ok none => .ok (cur, prev, sps, false)
      | .ok (some child) =>
        match childElement c s cur (Direction.ofBit b).other ep with
        | .error e => .error e
        | .ok sib => lcpWalk c s label ep f child cur (sps ++ [⟨cur.label, sib, .ofBit b⟩]) := by
  cases b <;> simp only [lcpWalk, h, hne, Direction.ofBit, decide_false, Bool.false_or, Bool.false_eq_true, if_false,
    if_true, reduceCtorEq] <;> rfl

theorem lcpWalk_none (c : Cfg) (s : NodeStore) (label : NodeLabel) (ep f : Nat) (cur prev : TreeNode)
    (sps : List SiblingProof) (b : Bool) (hne : label ≠ cur.label)
    (h : cur.label.prefixOrdering label = (if b then .withOne else .withZero))
    (hg : s.getChildForProof cur (.ofBit b) ep = .ok none) :
    lcpWalk c s label ep (f + 1) cur prev sps = .ok (cur, prev, sps, false) := by
  rw [lcpWalk_succ c s label ep f cur prev sps b hne h, hg]

theorem ofBits_ne_of_snoc_prefix {q x : BitStr} {b : Bool} (hx : x.length ≤ 256) (h : (q ++ [b]) <+: x) :
    ofBits x ≠ ofBits q := by
  have hl := h.length_le
  simp only [List.length_append, List.length_singleton] at hl
  intro e
  rw [NodeLabel.ofBits_inj hx (by omega) e] at hl
  omega

theorem ordering_of_bit (q x : BitStr) (b : Bool) (hx : x.length ≤ 256) (h : (q ++ [b]) <+: x) :
    (ofBits q).prefixOrdering (ofBits x) = (if b then .withOne else .withZero) := by
  have hq : q.length ≤ 256 := by
    have := h.length_le; simp at this; omega
  have ho := prefixOrdering_ofBits q x hq hx
  cases b
  · exact ho.1.2 h
  · exact ho.2.2 h

theorem ordering_invalid (q x : BitStr) (hq : q.length ≤ 256) (hx : x.length ≤ 256) (h : ¬ q <+: x) :
    (ofBits q).prefixOrdering (ofBits x) = .invalid := by
  have ho := prefixOrdering_ofBits q x hq hx
  cases hc : (ofBits q).prefixOrdering (ofBits x) with
  | withZero => exact absurd (Canon.prefix_of_snoc_prefix (ho.1.1 hc)) h
  | withOne => exact absurd (Canon.prefix_of_snoc_prefix (ho.2.1 hc)) h
  | invalid => rfl

theorem getNode_rep (c : Cfg) (m : InsertMode) (s : NodeStore) (t : CTree) (ep : Nat)
    (hr : Rep c m s t) (hle : maxEp t ≤ ep) :
    ∃ nt, s.getNode (ofBits t.lbl) ep = .ok nt ∧ NodeIs c m t nt := by
  obtain ⟨⟨r, hg, hn⟩, _⟩ := (rep_iff c m s t).1 hr
  exact ⟨r.latest, getNode_latest s _ r ep hg (by rw [nodeIs_lastEpoch hn]; exact hle), hn⟩

theorem getChild_some (c : Cfg) (m : InsertMode) (s : NodeStore) (t : CTree) (ep : Nat)
    (hr : Rep c m s t) (hle : maxEp t ≤ ep) (n : TreeNode) (d : Direction)
    (h : n.childLabel d = some (ofBits t.lbl)) :
    ∃ nt, s.getChild n d ep = .ok (some nt) ∧ NodeIs c m t nt := by
  obtain ⟨nt, hg, hn⟩ := getNode_rep c m s t ep hr hle
  refine ⟨nt, ?_, hn⟩
  unfold NodeStore.getChild
  rw [h]
  simp only
  rw [hg]

theorem element_nodeIs {c : Cfg} {t : CTree} {n : TreeNode} (h : NodeIs c .directory t n) :
    (⟨n.label, nodeToAzksValue c true (some n)⟩ : AzksElement) = CRoot.element c (some t) := by
  have hv := azksValue_nodeIs h
  simp only [decide_true] at hv
  rw [hv, nodeIs_label h]
  rfl

theorem childElement_rep (c : Cfg) (s : NodeStore) (o : Option CTree) (ep : Nat)
    (hrep : ∀ t, o = some t → Rep c .directory s t ∧ maxEp t ≤ ep) (n : TreeNode) (d : Direction)
    (h : n.childLabel d = olbl o) :
    childElement c s n d ep = .ok (CRoot.element c o) := by
  unfold NodeStore.childElement
  cases o with
  | none => rw [getChildForProof_of_label_none h]; rfl
  | some t =>
    obtain ⟨nt, hg, hn⟩ := getChild_some c .directory s t ep (hrep t rfl).1 (hrep t rfl).2 n d h
    rw [getChildForProof_of_getChild_some hg]
    exact congrArg Except.ok (element_nodeIs hn)

theorem walk_descend (c : Cfg) (s : NodeStore) (ep : Nat) (x : BitStr) (hx : x.length ≤ 256)
    (f : Nat) (n prev : TreeNode) (sps : List SiblingProof) (q : BitStr) (b : Bool)
    (hl : n.label = ofBits q) (hq : (q ++ [b]) <+: x)
    (ch : CTree) (o : Option CTree)
    (hch : n.childLabel (.ofBit b) = some (ofBits ch.lbl)) (ho : n.childLabel (Direction.ofBit b).other = olbl o)
    (hrc : Rep c .directory s ch) (hmc : maxEp ch ≤ ep)
    (hro : ∀ t, o = some t → Rep c .directory s t ∧ maxEp t ≤ ep) :
    ∃ nch, NodeIs c .directory ch nch ∧
      lcpWalk c s (ofBits x) ep (f + 1) n prev sps =
        lcpWalk c s (ofBits x) ep f nch n (sps ++ [⟨ofBits q, CRoot.element c o, Direction.ofBit b⟩]) := by
  obtain ⟨nch, hg, hn⟩ := getChild_some c .directory s ch ep hrc hmc n (.ofBit b) hch
  refine ⟨nch, hn, ?_⟩
  have hne : ofBits x ≠ n.label := by rw [hl]; exact ofBits_ne_of_snoc_prefix hx hq
  rw [lcpWalk_succ c s (ofBits x) ep f n prev sps b hne (by rw [hl]; exact ordering_of_bit q x b hx hq),
    getChildForProof_of_getChild_some hg, childElement_rep c s o ep hro n _ ho, hl]

theorem walk_stop (c : Cfg) (s : NodeStore) (ep : Nat) (x : BitStr) (hx : x.length ≤ 256) (a : CTree)
    (hla : a.lbl.length ≤ 256) (f : Nat) (n prev : TreeNode) (sps : List SiblingProof)
    (hn : NodeIs c .directory a n) (hp : ¬ a.lbl <+: x) :
    lcpWalk c s (ofBits x) ep (f + 1) n prev sps = .ok (n, prev, sps, false) :=
  lcpWalk_invalid c s _ ep f n prev sps
    (by rw [nodeIs_label hn]; exact fun e => hp (NodeLabel.ofBits_inj hx hla e ▸ List.prefix_refl _))
    (by rw [nodeIs_label hn]; exact ordering_invalid _ _ hla hx hp)

theorem rep_child {c m s q l r} (h : Rep c m s (.node q l r)) (b : Bool) : Rep c m s (CTree.child l r b) := by
  cases b
  · exact h.2.1
  · exact h.2.2

theorem maxEp_child (q : BitStr) (l r : CTree) (b : Bool) : maxEp (CTree.child l r b) ≤ maxEp (.node q l r) := by
  cases b <;> simp only [maxEp, CTree.child] <;> omega

theorem ofBit_other (b : Bool) : (Direction.ofBit b).other = .ofBit !b := by cases b <;> rfl

/-- Where no child's label is a prefix of the query the loop still reads the child on the query's side, stops
there (`walk_stop`), and `finish` steps back: the walk agrees with `a.path` only after `finish`. -/
theorem walk_tree (c : Cfg) (s : NodeStore) (ep : Nat) (x : BitStr) (hx : x.length ≤ 256) :
    ∀ (a : CTree) (fuel : Nat) (n prev : TreeNode) (sps : List SiblingProof),
      Rep c .directory s a → a.WF → (∀ lf ∈ a.leaves, lf.lbl.length ≤ 256) → maxEp a ≤ ep →
      NodeIs c .directory a n → (∀ lf ∈ a.leaves, lf.lbl <+: x → lf.lbl = x) →
      a.lbl <+: x → x.length < fuel + a.lbl.length →
      ∃ r nd, lcpWalk c s (ofBits x) ep (fuel + 1) n prev sps = .ok r ∧
        finish r = (nd, sps ++ (a.path c x).2) ∧ NodeIs c .directory (a.path c x).1 nd := by
  intro a
  induction a using CTree.child_induction with
  | leaf q v e =>
    intro f n prev sps _ _ _ _ hn hnp hp _
    have hqx : q = x := hnp ⟨q, v, e⟩ (by simp [CTree.leaves]) hp
    exact ⟨_, n, lcpWalk_equal c s _ ep f n prev _ (by rw [hn.1, hqx]), by simp [finish, CTree.path], hn⟩
  | node q l r ih =>
    intro f n prev sps hrep hwf hlen hmax hn hnp hp hf
    by_cases hqx : x = q
    · have hnone : x[q.length]? = none := by rw [hqx]; simp
      refine ⟨_, n, lcpWalk_equal c s _ ep f n prev _ (by rw [hn.1, hqx]), ?_, ?_⟩
      · simp [finish, CTree.path_node, hnone]
      · rw [CTree.path_node, hnone]; exact hn
    · -- the query continues below `q` with bit `b`: the walk enters the child on that side
      have hlt : q.length < x.length := Nat.lt_of_le_of_ne hp.length_le fun e => hqx (hp.eq_of_length e).symm
      obtain ⟨b, hb⟩ : ∃ b, x[q.length]? = some b := ⟨x[q.length], by simp [hlt]⟩
      have hqb := Canon.snoc_prefix_of_getElem? hp hb
      obtain ⟨hpc, hwc⟩ := hwf.node_child b
      have hsub : ∀ b', ∀ lf ∈ (CTree.child l r b').leaves, lf ∈ (CTree.node q l r).leaves :=
        fun b' lf h => CTree.mem_leaves_node.2 ⟨b', h⟩
      have hm : ∀ b', maxEp (CTree.child l r b') ≤ ep := fun b' => Nat.le_trans (maxEp_child q l r b') hmax
      obtain ⟨nch, hnch, hstep⟩ := walk_descend c s ep x hx f n prev sps q b hn.1 hqb
        (CTree.child l r b) (some (CTree.child l r !b)) (nodeIs_kid hn b)
        (by rw [ofBit_other]; exact nodeIs_kid hn (!b)) (rep_child hrep b) (hm b)
        (fun t ht => by cases ht; exact ⟨rep_child hrep _, hm _⟩)
      -- `q` is shorter than the query, so fuel is left; the child's label is longer than `q`
      obtain ⟨f', rfl⟩ := Nat.exists_eq_succ_of_ne_zero fun h0 : f = 0 =>
        Nat.lt_asymm hlt (by rw [h0, Nat.zero_add] at hf; exact hf)
      rw [hstep]
      by_cases hc : (CTree.child l r b).lbl <+: x
      · have hf' : x.length < f' + (CTree.child l r b).lbl.length := by
          have := hpc.length_le
          rw [List.length_append, List.length_singleton] at this
          exact Nat.lt_of_lt_of_le hf (by rw [Nat.succ_add]; exact Nat.add_le_add_left this f')
        obtain ⟨res, nd, h1, e1, e2⟩ := ih b f' nch n _ (rep_child hrep b) hwc (fun lf h => hlen lf (hsub b lf h))
          (hm b) hnch (fun lf h => hnp lf (hsub b lf h)) hc hf'
        rw [hwf.path_node_of_prefix c hc]
        exact ⟨res, nd, h1, by rw [e1, List.append_assoc]; rfl, e2⟩
      · have : (CTree.node q l r).path c x = (CTree.node q l r, []) := by
          simp only [CTree.path_node, hb, if_neg hc]
        rw [this]
        exact ⟨_, n, walk_stop c s ep x hx _ (Canon.Tree.lbl_length_le hwc fun lf h => hlen lf (hsub b lf h))
          f' nch n _ hnch hc, by simp [finish], hn⟩

theorem root_of_repRoot (c : Cfg) (s : NodeStore) (t : CRoot) (ep : Nat)
    (hrep : C01.ReprRoot c .directory s t) (hep : ∀ lf ∈ t.leaves, lf.ep ≤ ep) :
    ∃ n, s.getNode NodeLabel.root ep = .ok n ∧ PosIs c t none n := by
  obtain ⟨⟨r, hg, h1, h2, h3, h4, h5, h6, _⟩, _, _⟩ := (C01.reprRoot_iff c .directory s t).1 hrep
  exact ⟨r.latest, getNode_latest s _ r ep hg (by rw [h6]; exact oMax_le _ _ _ hep),
    ⟨h1, by simp [hashOf, h2, h5, posValue, Ins.hm], fun | false => h3 | true => h4⟩⟩

theorem side_rep (c : Cfg) (s : NodeStore) (t : CRoot) (ep : Nat)
    (hrep : C01.ReprRoot c .directory s t) (hep : ∀ lf ∈ t.leaves, lf.ep ≤ ep) (b : Bool) (a : CTree)
    (h : (t.side b).1 = some a) : Rep c .directory s a ∧ maxEp a ≤ ep := by
  have hch : t.Child a := CRoot.child_iff_side.2 ⟨b, h⟩
  refine ⟨(C01.repr_iff c .directory s a).1 ?_, maxEp_le a ep (fun lf hlf => hep lf (CRoot.mem_leaves.2 ⟨a, hch, hlf⟩))⟩
  rcases hch with h | h
  · exact hrep.2.1 a h
  · exact hrep.2.2 a h

theorem walk_root (c : Cfg) (s : NodeStore) (ep : Nat) (t : CRoot) (x : BitStr) (hx : x.length ≤ 256)
    (hrep : C01.ReprRoot c .directory s t) (hwf : t.WF)
    (hl : ∀ lf ∈ t.leaves, lf.lbl.length ≤ 256) (hep : ∀ lf ∈ t.leaves, lf.ep ≤ ep)
    (hnp : ∀ lf ∈ t.leaves, lf.lbl <+: x → lf.lbl = x)
    (n : TreeNode) (hn : PosIs c t none n) :
    ∃ r nd, lcpWalk c s (ofBits x) ep 300 n n [] = .ok r ∧ finish r = (nd, (t.path c x).2) ∧
      PosIs c t (t.path c x).1 nd := by
  cases x with
  | nil =>
    exact ⟨_, n, lcpWalk_equal c s _ ep 299 n n [] (by rw [hn.label, NodeLabel.ofBits_nil]; rfl), rfl, hn⟩
  | cons b x =>
    -- one step from the root to its child `a` on the side of `b` (`walk_descend`), then `walk_tree` inside `a`;
    -- if `a`'s label is not a prefix of the query, `finish` steps back to the root, as `CRoot.path` stays there
    have hlbl : n.label = ofBits [] := by rw [hn.label, NodeLabel.ofBits_nil]; rfl
    have hqb : ([] ++ [b]) <+: b :: x := by simp
    have hc1 : n.childLabel (.ofBit b) = olbl (t.side b).1 := hn.kid b
    have hc3 : (t.side b).2.2 = .ofBit b := by cases b <;> rfl
    have hne : ofBits (b :: x) ≠ n.label := by rw [hlbl]; exact ofBits_ne_of_snoc_prefix hx hqb
    cases hs : (t.side b).1 with
    | none =>
      rw [CRoot.path_cons_none c t b x hs]
      exact ⟨_, n, lcpWalk_none c s _ ep 299 n n [] b hne (by rw [hlbl]; exact ordering_of_bit [] _ b hx hqb)
        (getChildForProof_of_label_none (by rw [hc1, hs]; rfl)), rfl, hn⟩
    | some a =>
      obtain ⟨hra, hma⟩ := side_rep c s t ep hrep hep b a hs
      obtain ⟨hpa, hwa⟩ := hwf.side hs
      have hch : t.Child a := CRoot.child_iff_side.2 ⟨b, hs⟩
      have hsub : ∀ lf ∈ a.leaves, lf ∈ t.leaves := fun lf h => CRoot.mem_leaves.2 ⟨a, hch, h⟩
      obtain ⟨na, hna, hstep⟩ := walk_descend c s ep (b :: x) hx 299 n n [] [] b hlbl hqb a (t.side b).2.1
        (by rw [hc1, hs]; rfl) (by rw [ofBit_other, CRoot.side_other]; exact hn.kid (!b)) hra hma
        (fun t' ht' => side_rep c s t ep hrep hep _ t' (by rwa [CRoot.side_other] at ht'))
      rw [hstep, List.nil_append, CRoot.path_cons_some c t b x a hs, hc3, NodeLabel.ofBits_nil]
      by_cases hp : a.lbl <+: b :: x
      · obtain ⟨res, nd, h1, e1, e2⟩ := walk_tree c s ep (b :: x) hx a 298 na n [_] hra hwa
          (fun lf h => hl lf (hsub lf h)) hma hna (fun lf h => hnp lf (hsub lf h)) hp
          (Nat.lt_of_lt_of_le (Nat.lt_of_le_of_lt hx (by decide)) (Nat.le_add_right _ _))
        rw [if_pos ((BitStr.isPrefix_iff _ _).2 hp)]
        exact ⟨res, nd, h1, e1, .of_nodeIs e2⟩
      · rw [if_neg fun h => hp ((BitStr.isPrefix_iff _ _).1 h)]
        exact ⟨_, n, walk_stop c s ep (b :: x) hx a (Canon.Tree.lbl_length_le hwa fun lf h => hl lf (hsub lf h))
          298 na n _ hna hp, rfl, hn⟩

end Akd.Gen
