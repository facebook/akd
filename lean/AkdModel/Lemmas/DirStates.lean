/-
The value-state table of `Dir` on its own: what `stateLeq` picks, `setState` on states that are not
there yet, and `publish` split into the derivation of the elements and the step on the tree.
-/
import AkdModel.Dir
namespace Akd.Dir
open Akd

/-- the step of the fold in `stateLeq` -/
def pick (acc : Option ValueState) (s : ValueState) : Option ValueState :=
  match acc with
  | none => some s
  | some a => if s.epoch > a.epoch then some s else some a

theorem stateLeq_eq (d : Dir) (u : Bytes) (e : Nat) :
    d.stateLeq u e = (d.states.filter (fun s => s.username = u ∧ s.epoch ≤ e)).foldl pick none := rfl

theorem foldl_pick_some : ∀ (F : List ValueState) (a : ValueState),
    ∃ b, F.foldl pick (some a) = some b ∧ b ∈ a :: F ∧ ∀ s ∈ a :: F, s.epoch ≤ b.epoch
  | [], a => ⟨a, rfl, List.mem_cons_self, fun s hs => by simp at hs; subst hs; exact Nat.le_refl _⟩
  | x :: F, a => by
    simp only [List.foldl_cons, pick]
    by_cases h : x.epoch > a.epoch
    · rw [if_pos h]
      obtain ⟨b, h1, h2, h3⟩ := foldl_pick_some F x
      refine ⟨b, h1, List.mem_cons_of_mem _ h2, fun s hs => ?_⟩
      rcases List.mem_cons.1 hs with rfl | hs
      · have := h3 x List.mem_cons_self; omega
      · exact h3 s hs
    · rw [if_neg h]
      obtain ⟨b, h1, h2, h3⟩ := foldl_pick_some F a
      refine ⟨b, h1, ?_, fun s hs => ?_⟩
      · rcases List.mem_cons.1 h2 with rfl | h2
        · exact List.mem_cons_self
        · exact List.mem_cons_of_mem _ (List.mem_cons_of_mem _ h2)
      · rcases List.mem_cons.1 hs with rfl | hs
        · exact h3 s List.mem_cons_self
        · rcases List.mem_cons.1 hs with rfl | hs
          · have := h3 a List.mem_cons_self; omega
          · exact h3 s (List.mem_cons_of_mem _ hs)

theorem stateLeq_cases (d : Dir) (u : Bytes) (e : Nat) :
    (d.stateLeq u e = none ∧ ∀ s ∈ d.states, ¬ (s.username = u ∧ s.epoch ≤ e)) ∨
    ∃ st, d.stateLeq u e = some st ∧ st ∈ d.states ∧ (st.username = u ∧ st.epoch ≤ e) ∧
      ∀ s ∈ d.states, s.username = u ∧ s.epoch ≤ e → s.epoch ≤ st.epoch := by
  have hmem : ∀ s, s ∈ d.states.filter (fun s => s.username = u ∧ s.epoch ≤ e) ↔
      s ∈ d.states ∧ (s.username = u ∧ s.epoch ≤ e) := fun s => by simp [List.mem_filter]
  rw [stateLeq_eq]
  cases hF : d.states.filter (fun s => s.username = u ∧ s.epoch ≤ e) with
  | nil => exact .inl ⟨rfl, fun s hs hp => by have := (hmem s).2 ⟨hs, hp⟩; rw [hF] at this; cases this⟩
  | cons a F =>
    obtain ⟨b, hb1, hb2, hb3⟩ := foldl_pick_some F a
    rw [← hF] at hb2 hb3
    exact .inr ⟨b, hb1, ((hmem b).1 hb2).1, ((hmem b).1 hb2).2, fun s hs hp => hb3 s ((hmem s).2 ⟨hs, hp⟩)⟩

theorem stateLeq_mem {d : Dir} {u : Bytes} {e : Nat} {st : ValueState} (h : d.stateLeq u e = some st) :
    st ∈ d.states ∧ st.username = u ∧ st.epoch ≤ e := by
  rcases stateLeq_cases d u e with ⟨h', _⟩ | ⟨st', h', hm, hp, _⟩ <;> rw [h'] at h <;> cases h
  exact ⟨hm, hp⟩

theorem foldl_pick_map (f : ValueState → ValueState) (he : ∀ s, (f s).epoch = s.epoch)
    (l : List ValueState) : ∀ acc : Option ValueState,
    (l.map f).foldl pick (acc.map f) = (l.foldl pick acc).map f := by
  induction l with
  | nil => intro acc; rfl
  | cons s l ih =>
    intro acc
    simp only [List.map_cons, List.foldl_cons]
    have : pick (acc.map f) (f s) = (pick acc s).map f := by
      cases acc with
      | none => rfl
      | some a =>
        simp only [pick, Option.map_some, he]
        split <;> rfl
    rw [this, ih]

theorem stateLeq_map (d : Dir) (f : ValueState → ValueState)
    (hu : ∀ s, (f s).username = s.username) (he : ∀ s, (f s).epoch = s.epoch) (u : Bytes) (e : Nat) :
    Dir.stateLeq { d with states := d.states.map f } u e = (d.stateLeq u e).map f := by
  rw [stateLeq_eq, stateLeq_eq]
  simp only
  rw [List.filter_map]
  have : ((fun s : ValueState => decide (s.username = u ∧ s.epoch ≤ e)) ∘ f) =
      (fun s : ValueState => decide (s.username = u ∧ s.epoch ≤ e)) := by
    funext s; simp only [Function.comp, hu, he]
  rw [this]
  exact foldl_pick_map f he _ none

theorem setState_append (ss : List ValueState) (v : ValueState)
    (h : ∀ s ∈ ss, ¬ (s.username = v.username ∧ s.epoch = v.epoch)) : Dir.setState ss v = ss ++ [v] := by
  induction ss with
  | nil => rfl
  | cons s rest ih =>
    simp only [Dir.setState]
    rw [if_neg (h s List.mem_cons_self), ih (fun x hx => h x (List.mem_cons_of_mem _ hx))]
    rfl

theorem foldl_setState_append : ∀ (sts ss : List ValueState),
    (∀ s ∈ ss, ∀ v ∈ sts, ¬ (s.username = v.username ∧ s.epoch = v.epoch)) →
    sts.Pairwise (fun a b => ¬ (a.username = b.username ∧ a.epoch = b.epoch)) →
    sts.foldl Dir.setState ss = ss ++ sts
  | [], ss, _, _ => by simp
  | v :: sts, ss, h1, h2 => by
    rw [List.pairwise_cons] at h2
    rw [List.foldl_cons, setState_append ss v (fun s hs => h1 s hs v List.mem_cons_self),
      foldl_setState_append sts (ss ++ [v]) ?_ h2.2]
    · simp
    · intro s hs w hw
      rcases List.mem_append.1 hs with hs | hs
      · exact h1 s hs w (List.mem_cons_of_mem _ hw)
      · simp at hs; subst hs; exact h2.1 w hw

/-- the tree side of `publish` once the elements are derived; `none`: nothing to insert, the tree is left alone -/
def treeStep (c : Cfg) (nodes : NodeStore) (a : Azks) (els : List (NodeLabel × Dig)) :
    Except DErr (Option (NodeStore × Azks) × Dig) := do
  if els.isEmpty then
    let h ← liftT (nodes.rootHash c a)
    return (none, h)
  if nodes.inTxn then throw .txnActive
  let (ns, a') ← liftT (nodes.begin.batchInsert c .directory a els)
  let h ← liftT (ns.commit.rootHash c a')
  if a'.latestEpoch ≠ a.latestEpoch + 1 then throw .invalidEpoch
  return (some (ns.commit, a'), h)

theorem publish_eq (c : Cfg) (d : Dir) (b : List (Bytes × Bytes)) :
    d.publish c b =
      if (b.map (·.1)).eraseDups.length ≠ b.length then .error .duplicate else
      match d.azks with
      | none => .error .notFound
      | some a =>
        match deriveUpdates c d a.latestEpoch b with
        | .error e => .error e
        | .ok (els, sts) =>
          match treeStep c d.nodes a els with
          | .error e => .error e
          | .ok (none, h) => .ok (d, a.latestEpoch, h)
          | .ok (some (ns, a'), h) =>
            .ok ({ d with nodes := ns, azks := some a', states := sts.foldl setState d.states }, a.latestEpoch + 1, h) := by
  unfold publish
  simp only [bind, Except.bind, pure, Except.pure, throw, throwThe, MonadExceptOf.throw]
  by_cases hdup : (b.map (·.1)).eraseDups.length ≠ b.length
  · rw [if_pos hdup, if_pos hdup]
  rw [if_neg hdup, if_neg hdup]
  cases d.azks with
  | none => rfl
  | some a =>
    simp only
    cases deriveUpdates c d a.latestEpoch b with
    | error e => rfl
    | ok r =>
      simp only [treeStep, bind, Except.bind, pure, Except.pure, throw, throwThe, MonadExceptOf.throw]
      cases r.1.isEmpty with
      | true =>
        simp only [if_true]
        cases liftT (d.nodes.rootHash c a) <;> rfl
      | false =>
        simp only [Bool.false_eq_true, if_false]
        cases d.nodes.inTxn with
        | true => rfl
        | false =>
          simp only [Bool.false_eq_true, if_false]
          cases liftT (d.nodes.begin.batchInsert c .directory a r.1) with
          | error e => rfl
          | ok q =>
            simp only
            cases liftT (q.1.commit.rootHash c q.2) with
            | error e => rfl
            | ok h =>
              simp only
              split <;> rfl

end Akd.Dir
