/-
Marker versions in closed form: which versions `past?` and `future?` return, their bounds, and the
fact C08 rests on (`exists_future_past`): for `n < t` some future marker of `n` is `t` itself or a
past marker of `t`.
-/
import AkdModel.Marker
namespace Akd.Marker

/-- index of the largest skip-list element `≤ x` -/
def maxIdx (x : Nat) : Nat := (skiplist.takeWhile (· ≤ x)).length - 1
/-- the largest skip-list element `≤ x` (for `1 ≤ x`) -/
def skFloor (x : Nat) : Nat := skiplist.getD (maxIdx x) 0

theorem lt_length_takeWhile_le {l : List Nat} (hl : l.Pairwise (· < ·)) {i k : Nat}
    (h : l[i]? = some k) (x : Nat) : i < (l.takeWhile (· ≤ x)).length ↔ k ≤ x := by
  induction l generalizing i with
  | nil => simp at h
  | cons a l ih =>
    rw [List.pairwise_cons] at hl
    rw [List.takeWhile_cons]
    cases i with
    | zero =>
      obtain rfl : a = k := by simpa using h
      by_cases ha : a ≤ x <;> simp [ha]
    | succ i =>
      rw [List.getElem?_cons_succ] at h
      have hk : a < k := hl.1 k (List.mem_of_getElem? h)
      by_cases ha : a ≤ x
      · simp [ha, ih hl.2 h]
      · simp [ha]; omega

theorem skiplist_sorted : skiplist.Pairwise (· < ·) := by decide

/-- All that is used of `maxIdx`: it separates the skip-list elements `≤ x` from the others. -/
theorem le_maxIdx_iff {i k x : Nat} (hx : 1 ≤ x) (h : skiplist[i]? = some k) :
    i ≤ maxIdx x ↔ k ≤ x := by
  have h0 := (lt_length_takeWhile_le skiplist_sorted (i := 0) (k := 1) rfl x).2 hx
  rw [← lt_length_takeWhile_le skiplist_sorted h x, maxIdx]
  omega

theorem getElem?_maxIdx (x : Nat) : skiplist[maxIdx x]? = some (skFloor x) := by
  have h1 : (skiplist.takeWhile (· ≤ x)).length ≤ skiplist.length :=
    (List.takeWhile_sublist _).length_le
  have h2 : skiplist.length = 7 := rfl
  rw [skFloor, List.getD_eq_getElem?_getD, List.getElem?_eq_getElem (by rw [maxIdx]; omega)]
  rfl

theorem skFloor_le {t : Nat} (ht : 1 ≤ t) : skFloor t ≤ t :=
  (le_maxIdx_iff ht (getElem?_maxIdx t)).1 (Nat.le_refl _)

theorem maxIdx_mono {n E : Nat} (hn : 1 ≤ n) (h : n ≤ E) : maxIdx n ≤ maxIdx E :=
  (le_maxIdx_iff (Nat.le_trans hn h) (getElem?_maxIdx n)).2 (Nat.le_trans (skFloor_le hn) h)

/-- the skip-list slice appended by `future?` -/
def slice (n E : Nat) : List Nat := (skiplist.drop (maxIdx n + 1)).take (maxIdx E - maxIdx n)

/-- the slice is exactly the skip-list elements in `(n, E]` (also when `E < n`: both sides empty) -/
theorem mem_slice {n E x : Nat} (hn : 1 ≤ n) (hE : 1 ≤ E) :
    x ∈ slice n E ↔ x ∈ skiplist ∧ n < x ∧ x ≤ E := by
  simp only [slice, List.mem_iff_getElem?, List.getElem?_take, List.getElem?_drop]
  constructor
  · rintro ⟨j, hj⟩
    split at hj
    · have := le_maxIdx_iff hn hj
      have := le_maxIdx_iff hE hj
      exact ⟨⟨_, hj⟩, by omega, by omega⟩
    · cases hj
  · rintro ⟨⟨i, hi⟩, h1, h2⟩
    have := le_maxIdx_iff hn hi
    have := le_maxIdx_iff hE hi
    refine ⟨i - (maxIdx n + 1), ?_⟩
    rw [if_pos (by omega), show maxIdx n + 1 + (i - (maxIdx n + 1)) = i by omega]
    exact hi

theorem mem_pushDedup {acc : List Nat} {v x : Nat} : x ∈ pushDedup acc v ↔ x ∈ acc ∨ x = v := by
  unfold pushDedup
  cases h : acc.getLast? with
  | none => simp
  | some l =>
    by_cases hv : v = l
    · have := List.mem_of_getLast? h
      simp only [hv, ne_eq, not_true_eq_false, if_false]
      constructor
      · exact Or.inl
      · rintro (hx | rfl) <;> assumption
    · simp [hv]

theorem mem_foldl_pushDedup (c1 c2 : Nat → Prop) [DecidablePred c1] [DecidablePred c2] (g : Nat → Nat)
    (l : List Nat) (init : List Nat) (x : Nat) :
    x ∈ l.foldl (fun acc i => if c1 i then (if c2 i then pushDedup acc (g i) else acc) else acc) init ↔
      x ∈ init ∨ ∃ i ∈ l, c1 i ∧ c2 i ∧ x = g i := by
  induction l generalizing init with
  | nil => simp
  | cons a l ih =>
    rw [List.foldl_cons, ih]
    by_cases h1 : c1 a <;> by_cases h2 : c2 a <;> simp [h1, h2, mem_pushDedup, or_assoc]

theorem and_two_pow_eq_zero_iff (x i : Nat) : x &&& 2 ^ i = 0 ↔ x / 2 ^ i % 2 = 0 := by
  -- `x &&& 2 ^ i` is bit `i` of `x` in its place
  have h := Nat.div_add_mod (x &&& 2 ^ i) (2 ^ i)
  rw [Nat.and_div_two_pow, Nat.and_mod_two_pow, Nat.div_self (Nat.two_pow_pos i), Nat.mod_self,
    Nat.and_zero, Nat.and_one_is_mod, Nat.add_zero] at h
  rw [← h, Nat.mul_eq_zero]
  exact or_iff_right (Nat.ne_of_gt (Nat.two_pow_pos i))

theorem findMaxIndex?_eq {x : Nat} (h : 1 ≤ x) : findMaxIndex? x = some (maxIdx x) := by
  simp [findMaxIndex?, maxIdx]; omega

theorem log2?_eq {x : Nat} (h : 1 ≤ x) : log2? x = some (Nat.log2 x) := by
  simp [log2?]; omega

theorem bitLength_eq {n : Nat} (hn : 1 ≤ n) : bitLength n = Nat.log2 n + 1 := by
  simp [bitLength]; omega

theorem mem_past {s x : Nat} (hs : 1 ≤ s) :
    x ∈ (past? s).getD [] ↔
      (x = skFloor s ∧ x ≠ s) ∨ (x = 2 ^ Nat.log2 s ∧ x ≠ s) ∨
      ∃ i, i < bitLength s ∧ s / 2 ^ i % 2 = 1 ∧ x = s / 2 ^ (i+1) * 2 ^ (i+1) ∧ x ≠ 0 := by
  simp only [past?, findMaxIndex?_eq hs, log2?_eq hs, Option.bind_eq_bind, Option.bind_some,
    Option.pure_def, Option.getD_some]
  rw [mem_foldl_pushDedup, ← or_assoc]
  refine or_congr ?_ (exists_congr fun i => ?_)
  · -- the two markers pushed before the loop
    rw [Nat.one_shiftLeft, skFloor]
    generalize skiplist.getD (maxIdx s) 0 = k
    generalize 2 ^ s.log2 = p
    by_cases h1 : p = s <;> by_cases h2 : k = s <;> simp [h1, h2, mem_pushDedup] <;> omega
  · -- one marker per one bit of `s`
    simp only [Nat.one_shiftLeft]
    simp only [Nat.shiftRight_eq_div_pow, Nat.shiftLeft_eq, ne_eq, and_two_pow_eq_zero_iff,
      List.mem_reverse, List.mem_range]
    generalize s / 2 ^ (i + 1) * 2 ^ (i + 1) = v
    omega

theorem past?_isSome {s : Nat} (hs : 1 ≤ s) : (past? s).isSome = true := by
  simp only [past?, findMaxIndex?_eq hs, log2?_eq hs, Option.bind_eq_bind, Option.bind_some,
    Option.pure_def, Option.isSome_some]

theorem past?_zero : past? 0 = none := by simp [past?, findMaxIndex?]

theorem div_pow_succ (a k : Nat) : a / 2 ^ (k + 1) = a / 2 ^ k / 2 := by
  rw [Nat.pow_succ, Nat.div_div_eq_div_mul]

/-- the loop body of `futureFills` -/
def fillStep (n E : Nat) (st : Nat × List Nat) (i : Nat) : Nat × List Nat :=
  if n &&& 2 ^ i = 0 then
    (((st.1 ||| 2 ^ i) / 2 ^ i) * 2 ^ i,
      if ((st.1 ||| 2 ^ i) / 2 ^ i) * 2 ^ i ≤ E then st.2 ++ [((st.1 ||| 2 ^ i) / 2 ^ i) * 2 ^ i] else st.2)
  else st

theorem futureFills_eq (n E : Nat) :
    futureFills n E = ((List.range (bitLength n)).foldl (fillStep n E) (n, [])).2 := by
  unfold futureFills fillStep
  simp only [Nat.one_shiftLeft]
  simp only [Nat.shiftRight_eq_div_pow, Nat.shiftLeft_eq]

/-- After `k` rounds the running value `c` still agrees with `n` from bit `k` up (all a later round
looks at), and each zero bit `i < k` of `n` has contributed `n` rounded up at bit `i`, if `≤ E`. -/
theorem fillStep_inv (n E k : Nat) :
    ∃ c, c / 2 ^ k = n / 2 ^ k ∧ (List.range k).foldl (fillStep n E) (n, []) =
      (c, (((List.range k).filter fun i => n / 2 ^ i % 2 = 0).map fun i => (n / 2 ^ i + 1) * 2 ^ i).filter
        (· ≤ E)) := by
  induction k with
  | zero => exact ⟨n, rfl, rfl⟩
  | succ k ih =>
    obtain ⟨c, hc, ih⟩ := ih
    simp only [List.range_succ, List.foldl_append, ih, List.foldl_cons, List.foldl_nil, fillStep,
      and_two_pow_eq_zero_iff, List.filter_append, List.map_append]
    by_cases hb : n / 2 ^ k % 2 = 0
    · have hv : (c ||| 2 ^ k) / 2 ^ k = n / 2 ^ k + 1 := by
        rw [Nat.or_div_two_pow, hc, Nat.div_self (Nat.two_pow_pos k)]
        have h1 : (n / 2 ^ k ||| 1) / 2 = n / 2 ^ k / 2 := by rw [Nat.or_div_two]; simp
        have h2 : (n / 2 ^ k ||| 1) % 2 = 1 := by rw [Nat.or_mod_two_eq_one]; simp
        omega
      refine ⟨(n / 2 ^ k + 1) * 2 ^ k, ?_, ?_⟩
      · rw [div_pow_succ, Nat.mul_div_cancel _ (Nat.two_pow_pos k), div_pow_succ]; omega
      · simp only [hb, hv, if_true]
        split <;> simp [*]
    · exact ⟨c, by rw [div_pow_succ, div_pow_succ, hc], by simp [hb]⟩

theorem mem_futureFills {n E x : Nat} :
    x ∈ futureFills n E ↔
      ∃ i, i < bitLength n ∧ n / 2 ^ i % 2 = 0 ∧ x = (n / 2 ^ i + 1) * 2 ^ i ∧ x ≤ E := by
  obtain ⟨c, _, h⟩ := fillStep_inv n E (bitLength n)
  rw [futureFills_eq, h]
  simp only [List.mem_filter, List.mem_map, List.mem_range, decide_eq_true_eq]
  constructor
  · rintro ⟨⟨i, ⟨h1, h2⟩, rfl⟩, h3⟩; exact ⟨i, h1, h2, rfl, h3⟩
  · rintro ⟨i, h1, h2, rfl, h3⟩; exact ⟨⟨i, ⟨h1, h2⟩, rfl⟩, h3⟩

/-- the loop body of `futurePowers` -/
def powStep (oh : Option Nat) (next : Nat) (st : Bool × List Nat) (k : Nat) : Bool × List Nat :=
  if st.1 then st else
    match oh with
    | some h => if 2 ^ (next + k) ≥ h then (true, st.2) else (false, st.2 ++ [2 ^ (next + k)])
    | none => (false, st.2 ++ [2 ^ (next + k)])

theorem futurePowers_eq (slice : List Nat) (next final : Nat) :
    futurePowers slice next final =
      ((List.range (final + 1 - next)).foldl (powStep slice.head? next) (false, [])).2 := by
  unfold futurePowers powStep
  simp only [Nat.one_shiftLeft]
  rfl

/-- The loop stops at the first power that reaches the bound `oh`; the powers increase, so what it
has collected are all the powers below the bound. -/
theorem powStep_inv (oh : Option Nat) (next c : Nat) :
    (List.range c).foldl (powStep oh next) (false, []) =
      ((List.range c).any fun k => oh.any (· ≤ 2 ^ (next + k)),
        ((List.range c).filter fun k => oh.all (2 ^ (next + k) < ·)).map fun k => 2 ^ (next + k)) := by
  induction c with
  | zero => rfl
  | succ c ih =>
    simp only [List.range_succ, List.foldl_append, ih, List.foldl_cons, List.foldl_nil, powStep,
      List.any_append, List.filter_append, List.map_append]
    cases oh with
    | none => simp
    | some h =>
      simp only [Option.any_some, Option.all_some]
      cases hs : (List.range c).any fun k => decide (h ≤ 2 ^ (next + k)) with
      | true =>
        obtain ⟨k, hk, hle⟩ := List.any_eq_true.1 hs
        have : 2 ^ (next + k) ≤ 2 ^ (next + c) :=
          Nat.pow_le_pow_right (by omega) (by simp at hk; omega)
        have : ¬ 2 ^ (next + c) < h := by simp at hle; omega
        simp [this]
      | false => by_cases hc : h ≤ 2 ^ (next + c) <;> simp [hc, Nat.lt_of_not_le]

theorem mem_futurePowers {slice : List Nat} {next final x : Nat} :
    x ∈ futurePowers slice next final ↔
      ∃ j, next ≤ j ∧ j ≤ final ∧ x = 2 ^ j ∧ ∀ h, slice.head? = some h → 2 ^ j < h := by
  rw [futurePowers_eq, powStep_inv]
  simp only [List.mem_map, List.mem_filter, List.mem_range, Option.all_eq_true, decide_eq_true_eq]
  constructor
  · rintro ⟨k, ⟨hk, h⟩, rfl⟩; exact ⟨next + k, by omega, by omega, rfl, h⟩
  · rintro ⟨j, h1, h2, rfl, h⟩
    refine ⟨j - next, ?_⟩
    rw [show next + (j - next) = j by omega]
    exact ⟨⟨by omega, h⟩, rfl⟩

theorem future?_eq (n E : Nat) :
    future? n E = if 1 ≤ n ∧ 1 ≤ E ∧ maxIdx n ≤ maxIdx E then some (futureFills n E ++
      futurePowers (slice n E) (Nat.log2 n + 1) (Nat.log2 E) ++ slice n E) else none := by
  by_cases hn : 1 ≤ n
  · by_cases hE : 1 ≤ E
    · simp only [future?, findMaxIndex?_eq hn, findMaxIndex?_eq hE, log2?_eq hn, log2?_eq hE,
        Option.bind_eq_bind, Option.bind_some, Option.pure_def, slice, hn, hE, true_and]
      by_cases hm : maxIdx n ≤ maxIdx E
      · rw [if_neg (by omega), if_pos hm]
      · rw [if_pos (by omega), if_neg hm]; rfl
    · obtain rfl : E = 0 := by omega
      rw [if_neg (by omega)]
      simp only [future?, findMaxIndex?_eq hn, Option.bind_eq_bind, Option.bind_some]
      rfl
  · obtain rfl : n = 0 := by omega
    rfl

/-- `future?` panics on `endV = 0` (also on `epoch = 0`, or when `endV`'s skip-list index is above
`epoch`'s, see `future?_eq`). -/
theorem future?_eq_none_of_zero (E : Nat) : future? 0 E = none := by
  simp [future?_eq]

theorem mem_future {n E x : Nat} (hn : 1 ≤ n) (h : n ≤ E) :
    x ∈ (future? n E).getD [] ↔
      x ∈ futureFills n E ∨ x ∈ futurePowers (slice n E) (Nat.log2 n + 1) (Nat.log2 E) ∨
        x ∈ slice n E := by
  rw [future?_eq, if_pos ⟨hn, Nat.le_trans hn h, maxIdx_mono hn h⟩]; simp

theorem lt_succ_div_mul (n i : Nat) : n < (n / 2 ^ i + 1) * 2 ^ i := by
  have := Nat.lt_mul_div_succ n (Nat.two_pow_pos i)
  rwa [Nat.mul_comm] at this

theorem clear_lt {s i : Nat} (h : s / 2 ^ i % 2 = 1) : s / 2 ^ (i + 1) * 2 ^ (i + 1) < s := by
  have e : s / 2 ^ (i + 1) * 2 ^ (i + 1) = (s / 2 ^ i / 2 * 2) * 2 ^ i := by
    rw [div_pow_succ, Nat.pow_succ, Nat.mul_comm (2 ^ i) 2, ← Nat.mul_assoc]
  have h2 : s / 2 ^ i / 2 * 2 + 1 = s / 2 ^ i := by omega
  have h3 : (s / 2 ^ i / 2 * 2 + 1) * 2 ^ i ≤ s := by rw [h2]; exact Nat.div_mul_le_self _ _
  rw [Nat.add_mul] at h3
  have := Nat.two_pow_pos i
  omega

theorem past_bounds {s x : Nat} (h : x ∈ (past? s).getD []) : 1 ≤ x ∧ x < s := by
  by_cases hs : 1 ≤ s
  · rw [mem_past hs] at h
    rcases h with ⟨rfl, hne⟩ | ⟨rfl, hne⟩ | ⟨i, _, hb, rfl, hne⟩
    · have h1 : ∀ k ∈ skiplist, 1 ≤ k := by decide
      have := h1 _ (List.mem_of_getElem? (getElem?_maxIdx s))
      have := skFloor_le hs
      omega
    · have := Nat.log2_self_le (show s ≠ 0 by omega)
      have := Nat.two_pow_pos s.log2
      omega
    · exact ⟨by omega, clear_lt hb⟩
  · rw [show s = 0 by omega, past?_zero] at h
    cases h

theorem future_bounds {n E x : Nat} (h : x ∈ (future? n E).getD []) : n < x ∧ x ≤ E := by
  rw [future?_eq] at h
  split at h
  · rename_i hnE
    simp only [Option.getD_some, List.mem_append, mem_futureFills, mem_futurePowers,
      mem_slice hnE.1 hnE.2.1] at h
    rcases h with (⟨i, _, _, rfl, hle⟩ | ⟨j, h1, h2, rfl, _⟩) | h
    · exact ⟨lt_succ_div_mul n i, hle⟩
    · exact ⟨(Nat.log2_lt (by omega)).1 (by omega), (Nat.le_log2 (by omega)).1 h2⟩
    · exact h.2
  · cases h

/-- highest differing bit of `n < t` -/
theorem exists_split_bit (n t : Nat) (h : n < t) :
    ∃ i, n / 2 ^ i % 2 = 0 ∧ t / 2 ^ i = n / 2 ^ i + 1 := by
  have aux : ∀ k, n / 2 ^ k = t / 2 ^ k → ∃ i, n / 2 ^ i % 2 = 0 ∧ t / 2 ^ i = n / 2 ^ i + 1 := by
    intro k
    induction k with
    | zero => intro h0; simp at h0; omega
    | succ k ih =>
      intro hk
      by_cases hk' : n / 2 ^ k = t / 2 ^ k
      · exact ih hk'
      · refine ⟨k, ?_⟩
        rw [div_pow_succ, div_pow_succ] at hk
        have : n / 2 ^ k ≤ t / 2 ^ k := Nat.div_le_div_right (by omega)
        omega
  apply aux t
  rw [Nat.div_eq_of_lt (Nat.lt_trans h Nat.lt_two_pow_self), Nat.div_eq_of_lt Nat.lt_two_pow_self]

/-- rounding `t` down at any bit is either `t` or a one-bit clear of `t` -/
theorem round_down_is_clear (t k : Nat) (h : t / 2 ^ k * 2 ^ k ≠ t) :
    ∃ j, j < k ∧ t / 2 ^ j % 2 = 1 ∧ t / 2 ^ (j + 1) * 2 ^ (j + 1) = t / 2 ^ k * 2 ^ k := by
  induction k with
  | zero => simp at h
  | succ k ih =>
    by_cases hb : t / 2 ^ k % 2 = 1
    · exact ⟨k, by omega, hb, rfl⟩
    · have e : t / 2 ^ (k + 1) * 2 ^ (k + 1) = t / 2 ^ k * 2 ^ k := by
        rw [div_pow_succ, Nat.pow_succ, Nat.mul_comm (2 ^ k) 2, ← Nat.mul_assoc]
        congr 1
        omega
      rw [e] at h ⊢
      obtain ⟨j, hj, h1, h2⟩ := ih h
      exact ⟨j, by omega, h1, h2⟩

theorem lt_bitLength_of_div_pos {t j : Nat} (h : 0 < t / 2 ^ j) : j < bitLength t := by
  have h1 := Nat.div_mul_le_self t (2 ^ j)
  have h2 : 1 * 2 ^ j ≤ t / 2 ^ j * 2 ^ j := Nat.mul_le_mul_right _ h
  have ht : t ≠ 0 := by rintro rfl; simp at h
  have := (Nat.le_log2 ht).2 (by omega : 2 ^ j ≤ t)
  rw [bitLength_eq (by omega)]
  omega

theorem exists_future_past {n t E : Nat} (hn : 1 ≤ n) (hnt : n < t) (htE : t ≤ E) :
    ∃ x, x ∈ (future? n E).getD [] ∧ (x = t ∨ x ∈ (past? t).getD []) := by
  have ht : 1 ≤ t := by omega
  have hE : 1 ≤ E := by omega
  by_cases hk : maxIdx n < maxIdx t
  · -- a skip-list element separates `n` and `t`: the largest one `≤ t` is in the slice
    have h1 := le_maxIdx_iff hn (getElem?_maxIdx t)
    have h2 := skFloor_le ht
    refine ⟨skFloor t, ?_, ?_⟩
    · rw [mem_future hn (by omega), mem_slice hn hE]
      exact Or.inr (Or.inr ⟨List.mem_of_getElem? (getElem?_maxIdx t), by omega, by omega⟩)
    · by_cases he : skFloor t = t
      · exact Or.inl he
      · exact Or.inr ((mem_past ht).2 (Or.inl ⟨rfl, he⟩))
  · -- no skip-list element in `(n, t]`: round `n` up at the highest bit where it differs from `t`
    obtain ⟨i, hi0, hi1⟩ := exists_split_bit n t hnt
    have hlt := lt_succ_div_mul n i
    have hle : (n / 2 ^ i + 1) * 2 ^ i ≤ t := by rw [← hi1]; exact Nat.div_mul_le_self _ _
    refine ⟨(n / 2 ^ i + 1) * 2 ^ i, ?_, ?_⟩
    · rw [mem_future hn (by omega)]
      by_cases hz : n / 2 ^ i = 0
      · -- `n < 2 ^ i ≤ t`: a power of two, and the slice starts above `t`
        rw [hz, Nat.zero_add, Nat.one_mul] at hle hlt ⊢
        refine Or.inr (Or.inl (mem_futurePowers.2 ⟨i, ?_, ?_, rfl, fun h hh => ?_⟩))
        · have := (Nat.log2_lt (show n ≠ 0 by omega)).2 hlt; omega
        · exact (Nat.le_log2 (show E ≠ 0 by omega)).2 (by omega)
        · obtain ⟨hmem, hnh, _⟩ := (mem_slice hn hE).1 (List.mem_of_head? hh)
          obtain ⟨j, hj⟩ := List.mem_iff_getElem?.1 hmem
          have := le_maxIdx_iff hn hj
          have := le_maxIdx_iff ht hj
          omega
      · exact Or.inl (mem_futureFills.2
          ⟨i, lt_bitLength_of_div_pos (Nat.pos_of_ne_zero hz), hi0, rfl, by omega⟩)
    · rw [← hi1]
      by_cases he : t / 2 ^ i * 2 ^ i = t
      · exact Or.inl he
      · obtain ⟨j, hj, h1, h2⟩ := round_down_is_clear t i he
        have hpos : 0 < t / 2 ^ j := by generalize t / 2 ^ j = q at h1; omega
        refine Or.inr ((mem_past ht).2 (Or.inr (Or.inr
          ⟨j, lt_bitLength_of_div_pos hpos, h1, h2.symm, ?_⟩)))
        rw [hi1]; omega

end Akd.Marker
