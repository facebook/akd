/-
A generic induction through the insertion code (`phase1`, `side`, `phase23`, `insertRec`, `batchInsert`):
a store invariant `P` that every `writeNode` of a node satisfying `Q` keeps, and a node invariant `Q` that
holds of every node the code reads, builds or re-links.  Its users are the store invariants of partial commits and of
publishing.
-/
import AkdModel.Lemmas.InsertStep
namespace Akd.Ins
open Akd NodeStore

theorem setChild_shape {a b a' b' : TreeNode} (h : a.setChild b = .ok (a', b')) :
    a'.label = a.label ∧ a'.lastEpoch = max a.lastEpoch b.lastEpoch ∧ b' = { b with parent := a.label } := by
  unfold TreeNode.setChild at h
  cases ho : a.label.prefixOrdering b.label <;> rw [ho] at h <;> simp only at h <;> cases h <;>
    exact ⟨rfl, rfl, rfl⟩

theorem updateHash_shape {c : Cfg} {s : NodeStore} {n n' : TreeNode} {m : InsertMode}
    (h : updateHash c s n m = .ok n') : ∃ hv, n' = { n with hash := hv } := by
  unfold NodeStore.updateHash at h
  split at h
  · cases h; exact ⟨n.hash, rfl⟩
  · split at h
    · cases h; exact ⟨_, rfl⟩
    · cases h
    · cases h

set_option linter.unusedSectionVars false
section Abs
variable (c : Cfg) (epoch : Nat) (P : NodeStore → Prop) (Q : TreeNode → Prop)
variable (hget : ∀ s k n, P s → s.getNode k epoch = .ok n → Q n)
variable (hwrite : ∀ s n b s', P s → Q n → s.writeNode n b = .ok s' → P s')
variable (hset : ∀ a b a' b', Q a → Q b → a.setChild b = .ok (a', b') → Q a' ∧ Q b')
variable (hleaf : ∀ l v, Q (TreeNode.newLeaf c l v epoch)) (hint : ∀ l, Q (TreeNode.newInterior c l epoch))
variable (hhash : ∀ n hv, Q n → Q { n with hash := hv })
include hget hwrite hset hleaf hint hhash

theorem abs_phase1 {s s' : NodeStore} {nl : Option NodeLabel} {set : ElementSet Dig}
    {cur : TreeNode} {isNew : Bool} {num : Nat}
    (h : phase1 c epoch s nl set = .ok (s', cur, isNew, num)) (hs : P s) : P s' ∧ Q cur := by
  unfold phase1 at h
  split at h
  · split at h
    · cases h
    · rename_i existing hg
      have hq := hget _ _ _ hs hg
      simp only at h
      split at h
      · split at h
        · cases h
        · rename_i cur0 ex' hsc
          obtain ⟨q1, q2⟩ := hset _ _ _ _ (hint _) hq hsc
          split at h
          · cases h
          · rename_i s1 hw
            cases h
            exact ⟨hwrite _ _ _ _ hs q2 hw, q1⟩
      · cases h; exact ⟨hs, hq⟩
  · cases h; exact ⟨hs, hleaf _ _⟩
  · cases h; exact ⟨hs, hint _⟩

theorem abs_side {rec : RecFn}
    (hrec : ∀ s nl set s' n b k, rec s nl set = .ok (s', n, b, k) → P s → P s' ∧ Q n)
    {d : Direction} {s s' : NodeStore} {cur cur' : TreeNode} {num num' : Nat} {sub : ElementSet Dig}
    (h : side rec d s cur num sub = .ok (s', cur', num')) (hs : P s) (hc : Q cur) : P s' ∧ Q cur' := by
  unfold side at h
  split at h
  · cases h; exact ⟨hs, hc⟩
  · split at h
    · cases h
    · rename_i s1 ln lnew lnum hr
      obtain ⟨p1, qn⟩ := hrec _ _ _ _ _ _ _ hr hs
      split at h
      · cases h
      · rename_i cur1 ln1 hsc
        obtain ⟨q1, q2⟩ := hset _ _ _ _ hc qn hsc
        split at h
        · cases h
        · rename_i s2 hw
          cases h
          exact ⟨hwrite _ _ _ _ p1 q2 hw, q1⟩

theorem abs_phase23 {mode : InsertMode} {rec : RecFn}
    (hrec : ∀ s nl set s' n b k, rec s nl set = .ok (s', n, b, k) → P s → P s' ∧ Q n)
    {s s' : NodeStore} {cur cur' : TreeNode} {isNew isNew' : Bool} {num num' : Nat} {set : ElementSet Dig}
    (h : phase23 c mode rec s cur isNew num set = .ok (s', cur', isNew', num')) (hs : P s) (hc : Q cur) :
    P s' ∧ Q cur' := by
  unfold phase23 at h
  split at h
  · cases h
  · rename_i h1
    obtain ⟨p1, q1⟩ := abs_side c epoch P Q hget hwrite hset hleaf hint hhash hrec h1 hs hc
    split at h
    · cases h
    · rename_i h2
      obtain ⟨p2, q2⟩ := abs_side c epoch P Q hget hwrite hset hleaf hint hhash hrec h2 p1 q1
      split at h
      · cases h
      · rename_i n' hu
        cases h
        obtain ⟨hv, rfl⟩ := updateHash_shape hu
        exact ⟨p2, hhash _ _ q2⟩

theorem abs_insertRec (mode : InsertMode) : ∀ (fuel : Nat) (s : NodeStore)
    (nl : Option NodeLabel) (set : ElementSet Dig) (s' : NodeStore) (n : TreeNode) (b : Bool) (k : Nat),
    insertRec c mode epoch fuel s nl set = .ok (s', n, b, k) → P s → P s' ∧ Q n
  | 0, _, _, _, _, _, _, _, h, _ => by simp [insertRec] at h
  | fuel + 1, s, nl, set, s', n, b, k, h, hs => by
    rw [insertRec_succ] at h
    split at h
    · cases h
    · rename_i h1
      obtain ⟨p1, q1⟩ := abs_phase1 c epoch P Q hget hwrite hset hleaf hint hhash h1 hs
      exact abs_phase23 c epoch P Q hget hwrite hset hleaf hint hhash
        (abs_insertRec mode fuel) h p1 q1

end Abs

theorem abs_batchInsert (c : Cfg) (P : NodeStore → Prop) (Q : TreeNode → Prop)
    {mode : InsertMode} {s s' : NodeStore} {a a' : Azks} {nodes : List (NodeLabel × Dig)}
    (hget : ∀ s k n, P s → s.getNode k (a.latestEpoch + 1) = .ok n → Q n)
    (hwrite : ∀ s n b s', P s → Q n → s.writeNode n b = .ok s' → P s')
    (hset : ∀ a b a' b', Q a → Q b → a.setChild b = .ok (a', b') → Q a' ∧ Q b')
    (hleaf : ∀ l v, Q (TreeNode.newLeaf c l v (a.latestEpoch + 1)))
    (hint : ∀ l, Q (TreeNode.newInterior c l (a.latestEpoch + 1)))
    (hhash : ∀ n hv, Q n → Q { n with hash := hv })
    (h : s.batchInsert c mode a nodes = .ok (s', a')) (hs : P s) : P s' := by
  unfold NodeStore.batchInsert at h
  simp only at h
  split at h
  · cases h; exact hs
  · split at h
    · cases h
    · rename_i hr
      split at h
      · cases h
      · rename_i hw
        cases h
        obtain ⟨p1, q1⟩ := abs_insertRec c _ P Q hget hwrite hset hleaf hint hhash mode _ _ _ _ _ _ _ _ hr hs
        exact hwrite _ _ _ _ p1 q1 hw

end Akd.Ins
