/-
For C15 (`Thm/C16.lean`): the selection over "database overwritten by the pending records" is the
merge of the two selections that `get_user_state` / `get_user_state_versions` compute.
-/
import AkdModel.Lemmas.StoreLemmas
namespace Akd.Store

theorem Map.filter_set (m : Map) (r : Rec) (p : Rec → Bool)
    (hp : ∀ x ∈ m, x.key = r.key → p x = p r) :
    (m.set r).filter p = if p r then Map.set (m.filter p) r else m.filter p := by
  induction m with
  | nil => cases h : p r <;> simp [Map.set_nil, h]
  | cons x xs ih =>
    have ih := ih (fun y hy => hp y (List.mem_cons_of_mem _ hy))
    by_cases hx : x.key = r.key
    · have hpx := hp x List.mem_cons_self hx
      cases h : p r <;> simp [Map.set_cons, hx, hpx, h]
    · cases hq : p x <;> cases h : p r <;> simp [Map.set_cons, hx, ih, hq, h]

theorem Map.filter_setAll (m : Map) (rs : List Rec) (p : Rec → Bool)
    (hp : ∀ x ∈ m ++ rs, ∀ r ∈ rs, x.key = r.key → p x = p r) :
    (m.setAll rs).filter p = Map.setAll (m.filter p) (rs.filter p) := by
  induction rs generalizing m with
  | nil => rfl
  | cons r rs ih =>
    rw [Map.setAll_cons, ih]
    · rw [Map.filter_set m r p (fun x hx hk =>
        hp x (List.mem_append_left _ hx) r List.mem_cons_self hk)]
      by_cases h : p r = true
      · rw [if_pos h, List.filter_cons, if_pos h, Map.setAll_cons]
      · rw [if_neg h, List.filter_cons, if_neg h]
    · intro x hx r' hr' hk
      rcases List.mem_append.1 hx with hx | hx
      · rcases Map.mem_set hx with rfl | hx
        · exact hp _ (List.mem_append_right _ List.mem_cons_self) r' (List.mem_cons_of_mem _ hr') hk
        · exact hp x (List.mem_append_left _ hx) r' (List.mem_cons_of_mem _ hr') hk
      · exact hp x (List.mem_append_right _ (List.mem_cons_of_mem _ hx)) r'
          (List.mem_cons_of_mem _ hr') hk

theorem find?_congr {α} {p q : α → Bool} {l : List α} (h : ∀ x ∈ l, p x = q x) :
    l.find? p = l.find? q := by
  induction l with
  | nil => rfl
  | cons x xs ih =>
    rw [List.find?_cons, List.find?_cons, h x List.mem_cons_self,
      ih (fun y hy => h y (List.mem_cons_of_mem _ hy))]

namespace State

/-- every record is a value state of user `u` -/
def UserKeyed (u : Nat) (m : Map) : Prop := ∀ r ∈ m, r.key = .vs u (epochOf r)

theorem epochOf_congr {a b : Rec} (h : a.key = b.key) : epochOf a = epochOf b := by
  unfold epochOf; rw [h]

theorem userKeyed_userStates (m : Map) (u : Nat) : UserKeyed u (userStates m u) := by
  intro r hr
  have := (List.mem_filter.1 hr).2
  unfold epochOf
  cases hk : r.key <;> simp [hk] at this ⊢
  exact this

theorem UserKeyed.filter {u : Nat} {m : Map} (h : UserKeyed u m) (p : Rec → Bool) :
    UserKeyed u (m.filter p) := fun r hr => h r (List.mem_filter.1 hr).1

theorem UserKeyed.setAll {u : Nat} {m rs : Map} (hm : UserKeyed u m) (hr : UserKeyed u rs) :
    UserKeyed u (m.setAll rs) := by
  intro r h
  rcases Map.mem_setAll h with h | h
  · exact hr r h
  · exact hm r h

theorem UserKeyed.inj {u : Nat} {m : Map} (h : UserKeyed u m) (hk : m.KU) :
    ∀ a ∈ m, ∀ b ∈ m, epochOf a = epochOf b → a = b :=
  fun a ha b hb he => Map.KU_unique hk ha hb (by rw [h a ha, h b hb, he])

theorem UserKeyed.find?_epoch {u : Nat} {m : Map} (h : UserKeyed u m) (e : Nat) :
    m.find? (fun r => epochOf r = e) = m.get? (.vs u e) := by
  unfold Map.get?
  apply find?_congr
  intro x hx
  simp [h x hx]

theorem userStates_setAll (m rs : Map) (u : Nat) :
    userStates (m.setAll rs) u = Map.setAll (userStates m u) (userStates rs u) := by
  unfold userStates
  apply Map.filter_setAll
  intro x _ r _ hk
  rw [hk]

/-- of two optional records the first where `c` prefers it (or it is the only one), else the second -/
def choose (c : Rec → Rec → Bool) : Option Rec → Option Rec → Option Rec
  | some t, some d => if c t d then some t else some d
  | some t, none => some t
  | none, d => d

theorem choose_congr {c c' : Rec → Rec → Bool} {t d : Option Rec}
    (h : ∀ x, t = some x → ∀ y, d = some y → c x y = c' x y) : choose c t d = choose c' t d := by
  cases t with
  | none => rfl
  | some x =>
    cases d with
    | none => rfl
    | some y => simp only [choose, h x rfl y rfl]

theorem Best.unique {le : Nat → Nat → Prop} {f : Rec → Nat} {l : List Rec} {o o' : Option Rec}
    (anti : ∀ a b, le a b → le b a → a = b) (inj : ∀ a ∈ l, ∀ b ∈ l, f a = f b → a = b)
    (h : Best le f l o) (h' : Best le f l o') : o = o' := by
  cases o with
  | none =>
    cases o' with
    | none => rfl
    | some y => rw [show l = [] from h] at h'; cases h'.1
  | some x =>
    cases o' with
    | none => rw [show l = [] from h'] at h; cases h.1
    | some y => rw [inj x h.1 y h'.1 (anti _ _ (h'.2 x h.1) (h.2 y h'.1))]

/-- The best record of `D` overwritten by `L` is the better of the two bests.  If the database's best
`d` is strictly better than the log's best `t`, no record of `L` has `d`'s key (it would have `d`'s
epoch, and `t` is at least as good as every record of `L`), so `d` survives the overwriting. -/
theorem Best.setAll {le : Nat → Nat → Prop} [DecidableRel le] (tot : ∀ a b, le a b ∨ le b a)
    (tr : ∀ a b c, le a b → le b c → le a c) {D L : Map} (hD : D.KU) (hL : Map.KU L)
    {t d : Option Rec} (ht : Best le epochOf L t) (hd : Best le epochOf D d) :
    Best le epochOf (D.setAll L) (choose (fun t d => decide (le (epochOf d) (epochOf t))) t d) := by
  have hmem := @Map.mem_setAll_iff D L hD hL
  cases t with
  | none => rw [show L = [] from ht]; exact hd
  | some t =>
    have hin : ∀ {x}, x ∈ L → x ∈ D.setAll L := fun hx => hmem.2 (Or.inl hx)
    cases d with
    | none =>
      refine ⟨hin ht.1, fun y hy => ?_⟩
      rcases hmem.1 hy with hy | ⟨hy, _⟩
      · exact ht.2 y hy
      · rw [show D = [] from hd] at hy; cases hy
    | some d =>
      simp only [choose]
      by_cases hc : le (epochOf d) (epochOf t)
      · rw [if_pos (decide_eq_true hc)]
        refine ⟨hin ht.1, fun y hy => ?_⟩
        rcases hmem.1 hy with hy | ⟨hy, _⟩
        · exact ht.2 y hy
        · exact tr _ _ _ (hd.2 y hy) hc
      · rw [if_neg fun h => hc (of_decide_eq_true h)]
        have hlt := (tot (epochOf d) (epochOf t)).resolve_left hc
        refine ⟨hmem.2 (Or.inr ⟨hd.1, ?_⟩), fun y hy => ?_⟩
        · cases hg : Map.get? L d.key with
          | none => rfl
          | some y =>
            have h1 := ht.2 y (Map.get?_some_mem hg)
            rw [epochOf_congr (Map.get?_some_key hg)] at h1
            exact absurd h1 hc
        · rcases hmem.1 hy with hy | ⟨hy, _⟩
          · exact tr _ _ _ (ht.2 y hy) hlt
          · exact hd.2 y hy

theorem maxBy_setAll {u : Nat} {D L : Map} (hD : D.KU) (hL : Map.KU L) (uD : UserKeyed u D)
    (uL : UserKeyed u L) :
    maxBy epochOf (D.setAll L) = choose (fun t d => decide (epochOf d ≤ epochOf t))
      (maxBy epochOf L) (maxBy epochOf D) :=
  (maxBy_best ..).unique (fun _ _ => Nat.le_antisymm) ((uD.setAll uL).inj (Map.KU_setAll hD L))
    (Best.setAll Nat.le_total (fun _ _ _ => Nat.le_trans) hD hL (maxBy_best ..) (maxBy_best ..))

theorem minBy_setAll {u : Nat} {D L : Map} (hD : D.KU) (hL : Map.KU L) (uD : UserKeyed u D)
    (uL : UserKeyed u L) :
    minBy epochOf (D.setAll L) = choose (fun t d => decide (epochOf d ≥ epochOf t))
      (minBy epochOf L) (minBy epochOf D) :=
  (minBy_best ..).unique (fun _ _ h h' => Nat.le_antisymm h' h) ((uD.setAll uL).inj (Map.KU_setAll hD L))
    (Best.setAll (fun a b => Nat.le_total b a) (fun _ _ _ h h' => Nat.le_trans h' h) hD hL
      (minBy_best ..) (minBy_best ..))

/-- the answer `get_user_state` assembles from the transaction's and the database's answers -/
def pick (f : Flag) : Option Rec → Option Rec → Option Rec :=
  choose fun t d => preferTxn (epochOf d) t f

/-- versions follow epochs (what `DataWF` gives for one user) -/
def VerMono (m : Map) : Prop :=
  ∀ a ∈ m, ∀ b ∈ m, (epochOf a < epochOf b → a.version < b.version) ∧
    (epochOf a = epochOf b → a.version = b.version)

theorem select_setAll {u : Nat} {D L : Map} (hD : D.KU) (hL : Map.KU L) (uD : UserKeyed u D)
    (uL : UserKeyed u L) (hv : VerMono (D ++ L)) (f : Flag) :
    select (D.setAll L) f = pick f (select L f) (select D f) := by
  cases f with
  | specificVersion v =>
    simp only [select]
    rw [Map.filter_setAll, minBy_setAll (hD.filter _) (hL.filter _) (uD.filter _)
      (uL.filter _)]
    · -- records of one version: the pending one is not of a later epoch than the database's
      refine choose_congr fun t ht d hd => decide_eq_true (Nat.le_of_not_gt fun hlt => ?_)
      have htm := List.mem_filter.1 (minBy_mem ht)
      have hdm := List.mem_filter.1 (minBy_mem hd)
      have := (hv d (List.mem_append_left _ hdm.1) t (List.mem_append_right _ htm.1)).1 hlt
      rw [of_decide_eq_true htm.2, of_decide_eq_true hdm.2] at this
      exact Nat.lt_irrefl _ this
    · intro x hx r hr hk
      rw [(hv x hx r (List.mem_append_right _ hr)).2 (epochOf_congr hk)]
  | specificEpoch e =>
    simp only [select]
    rw [(uD.setAll uL).find?_epoch, uD.find?_epoch, uL.find?_epoch, Map.get?_setAll _ hL]
    cases Map.get? L (Key.vs u e) <;> cases D.get? (Key.vs u e) <;> rfl
  | leqEpoch e =>
    simp only [select]
    rw [Map.filter_setAll, maxBy_setAll (hD.filter _) (hL.filter _) (uD.filter _)
      (uL.filter _)]
    · rfl
    · intro x _ r _ hk
      rw [epochOf_congr hk]
  | maxEpoch => exact maxBy_setAll hD hL uD uL
  | minEpoch => exact minBy_setAll hD hL uD uL

theorem userState_obs (s : State) (u : Nat) (f : Flag) :
    (s.userState u f false).2 = .one (pick f
      (if s.active then select (userStates s.log u) f else none) (select (userStates s.db u) f)) := by
  unfold userState
  simp only [Bool.false_eq_true, if_false]
  cases (if s.active = true then select (userStates s.log u) f else none) with
  | none => cases select (userStates s.db u) f <;> rfl
  | some t =>
    cases select (userStates s.db u) f with
    | none => rfl
    | some d =>
      simp only [pick, choose]
      split <;> rfl

/-- the entry of `get_user_state_versions` for record `r` of user `u` -/
def toV (u : Nat) (r : Rec) : Nat × Nat × Nat := (u, r.version, r.payload)

/-- the repaired bulk-versions merge: compares versions -/
def pickV (f : Flag) : Option Rec → Option Rec → Option Rec :=
  choose fun t d => match f with
    | .specificVersion _ => true | .specificEpoch _ => true
    | .leqEpoch _ => decide (t.version ≥ d.version) | .maxEpoch => decide (t.version ≥ d.version)
    | .minEpoch => decide (t.version ≤ d.version)

theorem userVersions_obs (s : State) (us : List Nat) (f : Flag) :
    (s.userVersions fixed us f false).2 = .versions (us.eraseDups.filterMap fun u => (pickV f
      (if s.active then select (userStates s.log u) f else none) (select (userStates s.db u) f)).map
        (toV u)) := by
  unfold userVersions
  simp only [Bool.false_eq_true, if_false, fixed]
  congr 2
  funext u
  cases (if s.active = true then select (userStates s.log u) f else none) with
  | none => cases select (userStates s.db u) f <;> rfl
  | some t =>
    cases select (userStates s.db u) f with
    | none => rfl
    | some d =>
      -- with `.map (toV u)` taken into the branches the two sides are the same `if`
      simp only [pickV, choose, apply_ite (Option.map (toV u))]
      rfl

theorem VerMono.ge_iff {m : Map} (hv : VerMono m) {t d : Rec} (ht : t ∈ m) (hd : d ∈ m) :
    t.version ≥ d.version ↔ epochOf t ≥ epochOf d := by
  constructor
  · intro h
    apply Nat.le_of_not_gt
    intro hlt
    exact absurd ((hv t ht d hd).1 hlt) (Nat.not_lt_of_ge h)
  · intro h
    rcases Nat.lt_or_eq_of_le h with h | h
    · exact Nat.le_of_lt ((hv d hd t ht).1 h)
    · exact Nat.le_of_eq ((hv d hd t ht).2 h)

theorem pickV_eq_pick {D L : Map} (hv : VerMono (D ++ L)) (f : Flag) :
    pickV f (select L f) (select D f) = pick f (select L f) (select D f) := by
  refine choose_congr fun t ht d hd => ?_
  have htm : t ∈ D ++ L := List.mem_append_right _ (select_mem ht)
  have hdm : d ∈ D ++ L := List.mem_append_left _ (select_mem hd)
  have h1 := hv.ge_iff htm hdm
  have h2 := hv.ge_iff hdm htm
  cases f <;> simp only [preferTxn, h1, h2, ge_iff_le]

end State
end Akd.Store
