/-
The auditor's rebuild (`Auditor.rebuildRoot`) computes the canonical trie over the node set, hashed
without leaf epochs — an instance of the refinement theorem C01b.  Outside that theorem (node sets that are not
prefix-free): the rebuild never fails, and which node it drops.
-/
import AkdModel.Verify
import AkdModel.Thm.C01b
namespace Akd.Aud
open Akd

def setEp (k : Nat) : CTree → CTree
  | .leaf q v _ => .leaf q v k
  | .node q l r => .node q (setEp k l) (setEp k r)

def setEpR (k : Nat) (t : CRoot) : CRoot := ⟨t.l.map (setEp k), t.r.map (setEp k)⟩

theorem setEp_lbl (k : Nat) (t : CTree) : (setEp k t).lbl = t.lbl := by
  cases t <;> rfl

theorem setEp_azks (c : Cfg) (k : Nat) : ∀ t : CTree, (setEp k t).azks c .noLeafEpoch = t.azks c .noLeafEpoch
  | .leaf _ _ _ => rfl
  | .node q l r => by
    simp only [setEp, CTree.azks, setEp_azks c k l, setEp_azks c k r, setEp_lbl]

theorem setEp_wf (k : Nat) : ∀ t : CTree, t.WF → (setEp k t).WF
  | .leaf _ _ _, _ => trivial
  | .node q l r, h => by
    simp only [setEp, CTree.WF, setEp_lbl]
    exact ⟨h.1, h.2.1, setEp_wf k l h.2.2.1, setEp_wf k r h.2.2.2⟩

theorem setEp_leaves (k : Nat) : ∀ t : CTree, (setEp k t).leaves = t.leaves.map fun x => ⟨x.lbl, x.value, k⟩
  | .leaf _ _ _ => rfl
  | .node q l r => by
    simp only [setEp, CTree.leaves, List.map_append, setEp_leaves k l, setEp_leaves k r]

theorem setEpR_value (c : Cfg) (k : Nat) (t : CRoot) :
    (setEpR k t).value c .noLeafEpoch = t.value c .noLeafEpoch := by
  obtain ⟨tl, tr⟩ := t
  cases tl <;> cases tr <;>
    simp [setEpR, CRoot.value, CRoot.childValue, CRoot.childLabel, setEp_azks, setEp_lbl]

theorem setEpR_wf (k : Nat) (t : CRoot) (h : t.WF) : (setEpR k t).WF := by
  constructor
  · intro x hx
    obtain ⟨a, ha, rfl⟩ := Option.map_eq_some_iff.mp hx
    exact ⟨setEp_lbl k a ▸ (h.1 a ha).1, setEp_wf k a (h.1 a ha).2⟩
  · intro x hx
    obtain ⟨a, ha, rfl⟩ := Option.map_eq_some_iff.mp hx
    exact ⟨setEp_lbl k a ▸ (h.2 a ha).1, setEp_wf k a (h.2 a ha).2⟩

theorem setEpR_leaves (k : Nat) (t : CRoot) : (setEpR k t).leaves = t.leaves.map fun x => ⟨x.lbl, x.value, k⟩ := by
  obtain ⟨tl, tr⟩ := t
  cases tl <;> cases tr <;> simp [setEpR, CRoot.leaves, setEp_leaves]

theorem prefixFree_ep (els : List (BitStr × Dig)) (e₁ e₂ : Nat) (h : C01.PrefixFree (C01.newLeaves els e₁)) :
    C01.PrefixFree (C01.newLeaves els e₂) := by
  unfold C01.PrefixFree C01.newLeaves at h ⊢
  rw [List.pairwise_map] at h ⊢
  exact h

/-- the root value in `noLeafEpoch` mode of the canonical trie does not depend on the epochs: resetting the epochs of
the canonical trie gives a well-formed trie over the reset leaves, which is the canonical one -/
theorem ofLeaves_value_ep (c : Cfg) (els : List (BitStr × Dig)) (e₁ e₂ : Nat)
    (hpf : C01.PrefixFree (C01.newLeaves els e₁)) (hne : ∀ x ∈ els, x.1 ≠ []) :
    (CRoot.ofLeaves (C01.newLeaves els e₁)).value c .noLeafEpoch
      = (CRoot.ofLeaves (C01.newLeaves els e₂)).value c .noLeafEpoch := by
  have hne' : ∀ e, ∀ x ∈ C01.newLeaves els e, x.lbl ≠ [] := fun e x hx => by
    obtain ⟨y, hy, rfl⟩ := List.mem_map.mp hx
    exact hne y hy
  obtain ⟨w₁, p₁⟩ := C01.ofLeaves_spec _ hpf (hne' e₁)
  obtain ⟨w₂, p₂⟩ := C01.ofLeaves_spec _ (prefixFree_ep els e₁ e₂ hpf) (hne' e₂)
  rw [← setEpR_value c e₂, C01.wf_unique _ _ (setEpR_wf e₂ _ w₁) w₂]
  rw [setEpR_leaves]
  refine (p₁.map _).trans (.trans (.of_eq ?_) p₂.symm)
  rw [C01.newLeaves, List.map_map]
  rfl

theorem rebuildRoot_eq {c : Cfg} {s₀ : NodeStore} (h0 : ({} : NodeStore).azksNew c = .ok (s₀, ⟨0, 1⟩))
    (els : List (BitStr × Dig)) (latest : Option Nat) :
    Auditor.rebuildRoot c (els.map fun x => ⟨NodeLabel.ofBits x.1, x.2⟩) latest =
      match s₀.batchInsert c .auditor ⟨latest.getD 0, 1⟩ (els.map Ins.enc) with
      | .error _ => .error .audit
      | .ok (s, a) =>
        match s.rootHash c a with
        | .error _ => .error .audit
        | .ok h => .ok h := by
  unfold Auditor.rebuildRoot
  rw [h0, List.map_map]
  cases latest <;> rfl

theorem rebuildRoot_canonical (c : Cfg) (hc : c.emptyLabel.len = 0) (els : List (BitStr × Dig))
    (latest : Option Nat)
    (hpf : C01.PrefixFree (els.map fun x => (⟨x.1, x.2, 0⟩ : Leaf)))
    (hlen : ∀ x ∈ els, 1 ≤ x.1.length ∧ x.1.length ≤ 256) :
    Auditor.rebuildRoot c (els.map fun x => ⟨NodeLabel.ofBits x.1, x.2⟩) latest
      = .ok (c.rootHash ((CRoot.ofLeaves (els.map fun x => (⟨x.1, x.2, 0⟩ : Leaf))).value c .noLeafEpoch)) := by
  have hne : ∀ x ∈ els, x.1 ≠ [] := fun x hx h0 => by
    have := (hlen x hx).1
    rw [h0] at this
    cases this
  obtain ⟨s₀, h0, hr0⟩ := C01.azksNew_repr c .auditor ({} : NodeStore)
  -- the batch goes into the empty tree at epoch `E + 1`, whatever `E`
  generalize hE : latest.getD 0 = E
  have hpf₁ := prefixFree_ep els 0 (E + 1) hpf
  have hlen' : ∀ lf ∈ CRoot.empty.leaves ++ C01.newLeaves els (E + 1),
      1 ≤ lf.lbl.length ∧ lf.lbl.length ≤ 256 := by
    intro lf h
    obtain ⟨x, hx, rfl⟩ := List.mem_map.mp h
    exact hlen x hx
  have hep : ∀ lf ∈ CRoot.empty.leaves, 1 ≤ lf.ep ∧ lf.ep ≤ (⟨E, 1⟩ : Azks).latestEpoch := fun lf h => nomatch h
  obtain ⟨s', n, hrun, hrep'⟩ := C01.batchInsert_refines c hc .auditor s₀ ⟨E, 1⟩ CRoot.empty hr0
    Canon.Root.empty_wf hep els hpf₁ hlen'
  rw [rebuildRoot_eq h0, hE, hrun]
  simp only [C01.rootHash_of_reprRoot c .auditor s' _ (E + 1) n hrep'
    (C01.foldl_ep_le CRoot.empty Canon.Root.empty_wf ⟨E, 1⟩ hep els hpf₁ hlen')]
  exact congrArg (fun v => Except.ok (c.rootHash v)) (ofLeaves_value_ep c els (E + 1) 0 hpf₁ hne)

end Akd.Aud

namespace Akd.Aud
open Akd Ins NodeLabel NodeStore

theorem azksNew_root (c : Cfg) : ∃ s₀, ({} : NodeStore).azksNew c = .ok (s₀, ⟨0, 1⟩) ∧
    ∀ ep, s₀.getNode NodeLabel.root ep = .ok (TreeNode.newRoot c) :=
  ⟨_, rfl, fun ep => getNode_latest _ _ ⟨NodeLabel.root, TreeNode.newRoot c, none⟩ ep (getRec_setRec_self _ _)
    (Nat.zero_le _)⟩

/-- a label of length 0 is never decompressed: Phase 1 returns the node as it is, whatever the batch -/
theorem phase1_root (c : Cfg) (ep : Nat) (s : NodeStore) (nl : NodeLabel) (r : TreeNode) (set : ElementSet Dig)
    (hnl : nl.len = 0) (hr : s.getNode nl ep = .ok r) : phase1 c ep s (some nl) set = .ok (s, r, false, 0) := by
  simp only [phase1, hr]
  exact if_neg (by omega)

theorem ofList_unsorted {α : Type} (xs : List (NodeLabel × α)) (a b : NodeLabel × α) (ha : a ∈ xs) (hb : b ∈ xs)
    (hab : a.1.len ≠ b.1.len) : ElementSet.ofList xs = .unsorted xs := by
  cases xs with
  | nil => exact nomatch ha
  | cons y ys =>
    unfold ElementSet.ofList
    refine if_neg fun hall => hab ?_
    rw [List.all_eq_true] at hall
    rw [beq_iff_eq.1 (hall a ha), beq_iff_eq.1 (hall b hb)]

theorem phase1_none (c : Cfg) (ep : Nat) (s : NodeStore) (set : ElementSet Dig) (h : 2 ≤ set.elems.length) :
    phase1 c ep s none set = .ok (s, TreeNode.newInterior c (set.setLcp c.emptyLabel) ep, true, 1) := by
  unfold phase1
  generalize set.elems = l at h
  match l, h with
  | _ :: _ :: _, _ => rfl

theorem insertRec_none_congr (c : Cfg) (m : InsertMode) (ep fuel : Nat) (s : NodeStore) (S T : ElementSet Dig)
    (hS : 2 ≤ S.elems.length) (hT : 2 ≤ T.elems.length) (hl : S.setLcp c.emptyLabel = T.setLcp c.emptyLabel)
    (hp : S.partition (T.setLcp c.emptyLabel) = T.partition (T.setLcp c.emptyLabel)) :
    insertRec c m ep fuel s none S = insertRec c m ep fuel s none T := by
  cases fuel with
  | zero => rfl
  | succ fuel =>
    rw [insertRec_succ, insertRec_succ, phase1_none c ep s S hS, phase1_none c ep s T hT, hl]
    simp only [phase23, TreeNode.newInterior, hp]

theorem phase23_congr {c : Cfg} {m : InsertMode} {rec : RecFn} {s : NodeStore} {cur : TreeNode} {isNew : Bool} {num : Nat}
    {S T : ElementSet Dig}
    (hl : side rec .left s cur num (S.partition cur.label).1 = side rec .left s cur num (T.partition cur.label).1)
    (hr : (S.partition cur.label).2 = (T.partition cur.label).2) :
    phase23 c m rec s cur isNew num S = phase23 c m rec s cur isNew num T := by
  unfold phase23
  rw [hl, hr]

/-- below a fresh node, a batch element whose label is the common prefix of the others is dropped: the interior node
gets that label, and `get_prefix_ordering` of a label with itself is `Invalid`, so the element is on neither side -/
theorem insertRec_drop (c : Cfg) (hc : c.emptyLabel.len = 0) (m : InsertMode) (ep fuel : Nat) (s : NodeStore)
    (p : BitStr) (v : Dig) (xs : List (BitStr × Dig)) (h2 : 2 ≤ xs.length)
    (hlen : ∀ x ∈ xs, x.1.length ≤ 256) (hlcp : lcpAll xs = p) :
    insertRec c m ep fuel s none (.unsorted (enc (p, v) :: xs.map enc))
      = insertRec c m ep fuel s none (.unsorted (xs.map enc)) := by
  have hne : xs ≠ [] := List.ne_nil_of_length_pos (Nat.lt_of_lt_of_le (by decide) h2)
  have hp : p.length ≤ 256 := hlcp ▸ lcpAll_length_le _ hne hlen
  have hlcp' : lcpAll ((p, v) :: xs) = p :=
    (lcpAll_prefix _ (List.cons_ne_nil _ _) (p, v) (List.mem_cons_self ..)).eq_of_length_le
      ((prefix_lcpAll_iff _ (List.cons_ne_nil _ _) p).2 (List.forall_mem_cons.2
        ⟨List.prefix_refl p, hlcp ▸ lcpAll_prefix _ hne⟩)).length_le
  have h1 := setLcp_unsorted c.emptyLabel hc ((p, v) :: xs) (List.cons_ne_nil _ _) (List.forall_mem_cons.2 ⟨hp, hlen⟩)
  have h2' := setLcp_unsorted c.emptyLabel hc _ hne hlen
  rw [hlcp'] at h1
  rw [hlcp] at h2'
  have hself := prefixOrdering_invalid (ofBits p) (ofBits p) (Nat.le_refl _)
  refine insertRec_none_congr c m ep fuel s _ _ ?_ ?_ (h1.trans h2'.symm) ?_
  · simp only [ElementSet.elems, List.length_cons, List.length_map]; omega
  · simpa only [ElementSet.elems, List.length_map] using h2
  · rw [h2', partition_unsorted, partition_unsorted, List.filter_cons_of_neg (by simp [hself]),
      List.filter_cons_of_neg (by simp [hself])]

/-- the rebuild drops the node "0" from a set that has nodes under "00" and under "01" (and labels of more than one
length, so that the batch is kept in the order given): at the root, which has no left child yet, "0" goes left with the
nodes below it, and is dropped there by `insertRec_drop` -/
theorem rebuildRoot_drop (c : Cfg) (hc : c.emptyLabel.len = 0) (v : Dig) (els : List (BitStr × Dig))
    (latest : Option Nat) (hlen : ∀ x ∈ els, x.1.length ≤ 256)
    (a b : BitStr × Dig) (ha : a ∈ els) (hb : b ∈ els) (hab : a.1.length ≠ b.1.length)
    (h2 : 2 ≤ (els.filter (goes [] false)).length) (hlcp : lcpAll (els.filter (goes [] false)) = [false]) :
    Auditor.rebuildRoot c (⟨ofBits [false], v⟩ :: els.map fun x => ⟨ofBits x.1, x.2⟩) latest
      = Auditor.rebuildRoot c (els.map fun x => ⟨ofBits x.1, x.2⟩) latest := by
  obtain ⟨s₀, h0, hroot⟩ := azksNew_root c
  generalize hE : latest.getD 0 = E
  have hne : (els.map enc).isEmpty = false :=
    List.isEmpty_eq_false_iff_exists_mem.2 ⟨enc a, List.mem_map_of_mem ha⟩
  have hneL : ((els.filter (goes [] false)).map enc).isEmpty = false :=
    List.isEmpty_map.trans (List.isEmpty_eq_false_iff.2 (List.ne_nil_of_length_pos (Nat.lt_of_lt_of_le (by decide) h2)))
  have hL := filter_enc els [] false .withZero hlen (fun b hb => (prefixOrdering_ofBits [] b (Nat.zero_le _) hb).1)
  have hz := (prefixOrdering_ofBits [] [false] (Nat.zero_le _) (by decide)).1.2 (List.prefix_refl _)
  have hd := insertRec_drop c hc .auditor (E + 1) 299 s₀ [false] v _ h2
    (fun x hx => hlen x (List.mem_filter.1 hx).1) hlcp
  -- the root keeps its place (label of length 0); the two batches differ on its left side only
  have key : insertRec c .auditor (E + 1) 300 s₀ (some NodeLabel.root) (.unsorted (enc ([false], v) :: els.map enc))
      = insertRec c .auditor (E + 1) 300 s₀ (some NodeLabel.root) (.unsorted (els.map enc)) := by
    rw [insertRec_succ c .auditor (E + 1) 299, insertRec_succ c .auditor (E + 1) 299,
      phase1_root c _ s₀ _ _ _ rfl (hroot _), phase1_root c _ s₀ _ _ _ rfl (hroot _)]
    refine phase23_congr ?_ ?_
    · simp only [show (TreeNode.newRoot c).label = ofBits [] from ofBits_nil.symm, partition_unsorted]
      rw [List.filter_cons_of_pos (by simp [hz]), hL]
      simp only [side, ElementSet.elems, List.isEmpty_cons, hneL, TreeNode.childLabel,
        show (TreeNode.newRoot c).left = none from rfl, hd]
    · simp only [show (TreeNode.newRoot c).label = ofBits [] from ofBits_nil.symm, partition_unsorted]
      rw [List.filter_cons_of_neg (by simp [hz])]
  refine (rebuildRoot_eq h0 (([false], v) :: els) latest).trans (.trans ?_ (rebuildRoot_eq h0 els latest).symm)
  unfold NodeStore.batchInsert
  rw [hE, List.map_cons, ofList_unsorted _ (enc a) (enc b) (List.mem_cons_of_mem _ (List.mem_map_of_mem ha))
      (List.mem_cons_of_mem _ (List.mem_map_of_mem hb)) hab,
    ofList_unsorted _ (enc a) (enc b) (List.mem_map_of_mem ha) (List.mem_map_of_mem hb) hab]
  simp only [ElementSet.elems, List.isEmpty_cons, hne, key]

theorem getChild_total (s : NodeStore) (n : TreeNode) (d : Direction) (ep : Nat) : ∃ o, s.getChild n d ep = .ok o := by
  unfold NodeStore.getChild
  cases n.childLabel d with
  | none => exact ⟨_, rfl⟩
  | some l =>
    rcases getNode_cases s l ep with ⟨x, h⟩ | h <;> simp only [h] <;> exact ⟨_, rfl⟩

theorem updateHash_total (c : Cfg) (s : NodeStore) (n : TreeNode) (m : InsertMode) :
    ∃ hv, updateHash c s n m = .ok { n with hash := hv } := by
  unfold NodeStore.updateHash
  obtain ⟨l, hl⟩ := getChild_total s n .left n.lastEpoch
  obtain ⟨r, hr⟩ := getChild_total s n .right n.lastEpoch
  rw [hl, hr]
  split
  · exact ⟨n.hash, rfl⟩
  · exact ⟨_, rfl⟩

/-- what the insertion keeps of the node it is working on -/
def Cur (ep : Nat) (q : BitStr) (n : TreeNode) : Prop := n.label = ofBits q ∧ n.lastEpoch ≤ ep

/-- a sub-tree built from nothing: the recursion, as far as `side` and `phase23` use it -/
def Total (ep : Nat) (rec : RecFn) (k : Nat) : Prop :=
  ∀ (s : NodeStore) (set : ElementSet Dig) (bs : List (BitStr × Dig)) (pre : BitStr), Batch set bs pre →
    1 ≤ pre.length → bs ≠ [] → 257 ≤ pre.length + k →
    ∃ s' n isNew num, rec s none set = .ok (s', n, isNew, num) ∧ Cur ep (lcpAll bs) n

theorem side_total {ep k : Nat} {rec : RecFn} (hrec : Total ep rec k)
    (d : Bool) (s : NodeStore) (cur : TreeNode) (num : Nat) {q : BitStr} (hcur : Cur ep q cur)
    (hch : cur.childLabel (.ofBit d) = none) {sub : ElementSet Dig} {bs : List (BitStr × Dig)}
    (hb : Batch sub bs (q ++ [d])) (hk : 256 ≤ q.length + k) :
    ∃ s' cur' num', side rec (.ofBit d) s cur num sub = .ok (s', cur', num') ∧ Cur ep q cur' ∧
      cur'.childLabel (.ofBit !d) = cur.childLabel (.ofBit !d) := by
  unfold side
  by_cases hne : bs = []
  · rw [hb.elems, hne]
    exact ⟨_, _, _, rfl, hcur, rfl⟩
  · obtain ⟨s₁, n, isNew, num₁, h1, hn, hne₁⟩ := hrec s sub bs _ hb (by simp) hne (by simp; omega)
    have hle := lcpAll_length_le bs hne fun b h => (hb.under b h).2
    obtain ⟨cur', h2, hl, -, hc', he, -⟩ := setChild_spec cur n q _ d hcur.1 hn hle (hb.le_lcpAll hne)
    obtain ⟨s₂, h3⟩ := writeNode_total s₁ { n with parent := ofBits q } isNew
    rw [hb.isEmpty hne, hch, h1]
    simp only [Bool.false_eq_true, if_false, h2, h3]
    refine ⟨_, _, _, rfl, ⟨hl.trans hcur.1, ?_⟩, ?_⟩
    · rw [he]
      exact Nat.max_le.2 ⟨hcur.2, hne₁⟩
    · rw [hc', if_neg (by cases d <;> decide)]

theorem phase23_total {c : Cfg} {m : InsertMode} {ep k : Nat} {rec : RecFn} (hrec : Total ep rec k)
    (s : NodeStore) (cur : TreeNode) (isNew : Bool) (num : Nat) {q : BitStr} (hq : q.length ≤ 256) (hcur : Cur ep q cur)
    (hl : cur.left = none) (hr : cur.right = none) {set : ElementSet Dig} {bs : List (BitStr × Dig)}
    (hb : Batch set bs q) (hk : 256 ≤ q.length + k) :
    ∃ s' n num', phase23 c m rec s cur isNew num set = .ok (s', n, isNew, num') ∧ Cur ep q n := by
  obtain ⟨bl, br⟩ := partition_spec hb hq
  rw [← hcur.1] at bl br
  obtain ⟨s₁, cur₁, num₁, h1, hc1, hr1⟩ := side_total hrec false s cur num hcur hl bl hk
  obtain ⟨s₂, cur₂, num₂, h2, hc2, -⟩ := side_total hrec true s₁ cur₁ num₁ hc1 (hr1.trans hr) br hk
  obtain ⟨hv, h3⟩ := updateHash_total c s₂ cur₂ m
  have h1' : side rec .left s cur num (set.partition cur.label).1 = _ := h1
  have h2' : side rec .right s₁ cur₁ num₁ (set.partition cur.label).2 = _ := h2
  unfold phase23
  rw [h1']
  simp only [h2', h3]
  exact ⟨_, _, _, rfl, hc2⟩

/-- building a sub-tree from nothing never fails, whatever the batch: labels that repeat or extend each other included.
The fuel bounds the depth: each call works strictly below the prefix of the call above. -/
theorem insertRec_total (c : Cfg) (hc : c.emptyLabel.len = 0) (m : InsertMode) (ep : Nat) :
    ∀ k, Total ep (insertRec c m ep k) k
  | 0, _, _, bs, pre, hb, _, hne, hk => by
    obtain ⟨b, hm⟩ := List.exists_mem_of_ne_nil bs hne
    have := (hb.under b hm).1.length_le
    have := (hb.under b hm).2
    omega
  | k + 1, s, set, bs, pre, hb, hpre, hne, hk => by
    have hq : Batch set bs (lcpAll bs) := hb.at (lcpAll_prefix bs hne)
    have hlen := lcpAll_length_le bs hne fun b h => (hb.under b h).2
    have hp1 : ∃ cur, phase1 c ep s none set = .ok (s, cur, true, 1) ∧ Cur ep (lcpAll bs) cur ∧
        cur.left = none ∧ cur.right = none := by
      unfold phase1
      rw [hb.elems]
      cases bs with
      | nil => exact absurd rfl hne
      | cons x rest =>
        cases rest with
        | nil => exact ⟨_, rfl, ⟨rfl, Nat.le_refl _⟩, rfl, rfl⟩
        | cons y rest =>
          exact ⟨_, rfl, ⟨setLcp_spec c.emptyLabel hc hb hne (hb.pos hpre), Nat.le_refl _⟩, rfl, rfl⟩
    obtain ⟨cur, h1, hcur, hl, hr⟩ := hp1
    have := (hb.le_lcpAll hne).length_le
    obtain ⟨s', n, num', h2, hn⟩ := phase23_total (c := c) (m := m) (insertRec_total c hc m ep k) s cur true 1 hlen
      hcur hl hr hq (by omega)
    rw [insertRec_succ, h1]
    exact ⟨_, _, _, _, h2, hn⟩

theorem rebuildRoot_of_phase23 {c : Cfg} {s₀ s₁ : NodeStore} (h0 : ({} : NodeStore).azksNew c = .ok (s₀, ⟨0, 1⟩))
    (hroot : ∀ ep, s₀.getNode NodeLabel.root ep = .ok (TreeNode.newRoot c))
    (els : List (BitStr × Dig)) (latest : Option Nat) {n : TreeNode} {num : Nat}
    (hne : ¬ (ElementSet.ofList (els.map enc)).elems.isEmpty = true)
    (h : phase23 c .auditor (insertRec c .auditor (latest.getD 0 + 1) 299) s₀ (TreeNode.newRoot c) false 0
      (ElementSet.ofList (els.map enc)) = .ok (s₁, n, false, num))
    (hn : Cur (latest.getD 0 + 1) [] n) :
    Auditor.rebuildRoot c (els.map fun x => ⟨ofBits x.1, x.2⟩) latest = .ok (c.rootHash n.hash) := by
  obtain ⟨s₂, hw⟩ := writeNode_total s₁ n false
  obtain ⟨r, hg, hr⟩ := getRec_writeNode_self hw
  rw [hn.1, ofBits_nil] at hg
  have hread : s₂.rootHash c ⟨latest.getD 0 + 1, 1 + num⟩ = .ok (c.rootHash n.hash) := by
    unfold NodeStore.rootHash
    rw [getNode_latest s₂ _ r _ hg (by rw [hr]; exact hn.2), hr]
  rw [rebuildRoot_eq h0]
  unfold NodeStore.batchInsert
  simp only []
  rw [if_neg hne, insertRec_succ c .auditor _ 299, phase1_root c _ s₀ _ _ _ rfl (hroot _)]
  simp only [h, hw, hread]

/-- the rebuild fails on no node set: only the label check of the repair rejects one -/
theorem rebuildRoot_total (c : Cfg) (hc : c.emptyLabel.len = 0) (els : List (BitStr × Dig)) (latest : Option Nat)
    (hlen : ∀ x ∈ els, x.1.length ≤ 256) :
    ∃ h, Auditor.rebuildRoot c (els.map fun x => ⟨ofBits x.1, x.2⟩) latest = .ok h := by
  obtain ⟨s₀, h0, hroot⟩ := azksNew_root c
  by_cases hne : (ElementSet.ofList (els.map enc)).elems.isEmpty = true
  · rw [rebuildRoot_eq h0]
    unfold NodeStore.batchInsert NodeStore.rootHash
    simp only [if_pos hne, hroot]
    exact ⟨_, rfl⟩
  · obtain ⟨bs, -, hb⟩ := ofList_spec els hlen
    obtain ⟨s₁, n, num, h, hn⟩ := phase23_total (c := c) (m := .auditor)
      (insertRec_total c hc .auditor (latest.getD 0 + 1) 299) s₀ (TreeNode.newRoot c) false 0 (Nat.zero_le _)
      ⟨ofBits_nil.symm, Nat.zero_le _⟩ rfl rfl hb (by decide)
    exact ⟨_, rebuildRoot_of_phase23 h0 hroot els latest hne h hn⟩

/-- the rebuild over a single element carrying the root label: the element is dropped by
`partition` (it continues the root label with neither bit), the root is re-hashed over two empty slots -/
theorem rebuildRoot_rootLabel (c : Cfg) (v : Dig) :
    Auditor.rebuildRoot c [⟨NodeLabel.root, v⟩] none
      = .ok (c.rootHash (c.parentHash c.emptyNodeHash c.emptyLabel c.emptyNodeHash c.emptyLabel)) := by
  obtain ⟨s₀, h0, hroot⟩ := azksNew_root c
  obtain ⟨bs, hperm, hb⟩ := ofList_spec [([], v)] fun b _ => by simp_all
  cases List.perm_singleton.1 hperm
  obtain ⟨bl, br⟩ := partition_spec hb (Nat.zero_le _)
  have hf : ∀ d, [(([] : BitStr), v)].filter (goes [] d) = [] := fun d =>
    List.filter_cons_of_neg (by rw [show goes [] d ([], v) = false from goes_self d ([], v)]; decide)
  have hl := bl.elems
  have hr := br.elems
  rw [ofBits_nil, hf, List.map_nil] at hl hr
  have h : phase23 c .auditor (insertRec c .auditor 1 299) s₀ (TreeNode.newRoot c) false 0
      (ElementSet.ofList ([([], v)].map enc)) = .ok (s₀, { TreeNode.newRoot c with
        hash := c.parentHash c.emptyNodeHash c.emptyLabel c.emptyNodeHash c.emptyLabel }, false, 0) := by
    simp only [phase23, side, show (TreeNode.newRoot c).label = NodeLabel.root from rfl, hl, hr, List.isEmpty_nil,
      if_true]
    rfl
  have := rebuildRoot_of_phase23 h0 hroot [([], v)] none (by rw [hb.isEmpty (List.cons_ne_nil _ _)]; decide) h
    ⟨ofBits_nil.symm, Nat.zero_le _⟩
  rwa [List.map_cons, List.map_nil, ofBits_nil] at this

end Akd.Aud
