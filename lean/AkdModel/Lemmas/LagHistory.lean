/-
C13d: the storage invariants (`C13.StoreOK`) along any publish history: the labels of a tree stay labels of the tree
after insertions, the database after a commit holds nothing but nodes of the new tree, one publish, any number.
-/
import AkdModel.Thm.C13c
import AkdModel.Thm.C01c
import AkdModel.Lemmas.PartialView
namespace Akd.Lag
open Akd C01 C11 Part

theorem rootK_nodeKeys {t : CRoot} {q : BitStr} (h : Ins.RootK t q) : NodeLabel.ofBits q ∈ nodeKeys t := by
  rw [nodeKeys_eq, List.mem_cons, List.mem_map]
  rcases h with rfl | h
  · exact .inl NodeLabel.ofBits_nil
  · exact .inr ⟨q, h, rfl⟩

theorem runDir_append (c : Cfg) : ∀ (h1 h2 : List (List (Bytes × Bytes))) (d : Dir),
    runDir c d (h1 ++ h2) = runDir c (runDir c d h1) h2
  | [], _, _ => rfl
  | b :: rest, h2, d => by
    simp only [List.cons_append, runDir]
    split <;> exact runDir_append c rest h2 _


theorem commit_db (c : Cfg) (hc : c.emptyLabel.len = 0)
    (s : NodeStore) (a : Azks) (t : CRoot)
    (hidle : s.inTxn = false ∧ s.log = [])
    (hrep : C01.ReprRoot c .directory s t) (hwf : t.WF)
    (hkeyed : C11.WellKeyed s.db)
    (hdom : ∀ k, (s.db.get? k).isSome → k ∈ C11.nodeKeys t)
    (hep : ∀ lf ∈ t.leaves, 1 ≤ lf.ep ∧ lf.ep ≤ a.latestEpoch)
    (els : List (BitStr × Dig))
    (hpf : C01.PrefixFree (t.leaves ++ C01.newLeaves els (a.latestEpoch + 1)))
    (hlen : ∀ lf ∈ t.leaves ++ C01.newLeaves els (a.latestEpoch + 1), 1 ≤ lf.lbl.length ∧ lf.lbl.length ≤ 256)
    (s' : NodeStore) (a' : Azks)
    (hins : s.begin.batchInsert c .directory a (els.map fun x => (NodeLabel.ofBits x.1, x.2)) = .ok (s', a')) :
    C11.WellKeyed s'.commit.db ∧
    ∀ k, (s'.commit.db.get? k).isSome →
      k ∈ C11.nodeKeys ((C01.newLeaves els (a.latestEpoch + 1)).foldl CRoot.insert1 t) := by
  have hlog : Pub.LogOK s' := Pub.logOK_batchInsert hins (Pub.logOK_begin s hidle.2)
  have hdb := Part.keeps_db s.db hins ⟨rfl, rfl⟩
  have hnew := Part.newInv_batchInsert s.db hkeyed hins (Part.newInv_begin hidle.2 _)
  obtain ⟨hchg, hold⟩ := Part.chg_batchInsert c hc s a t hidle hrep hwf hep els hpf hlen s' a' hins
  have hkeys : ∀ k, (s.db.get? k).isSome →
      k ∈ C11.nodeKeys ((C01.newLeaves els (a.latestEpoch + 1)).foldl CRoot.insert1 t) := fun k hk => by
    obtain ⟨q, hq, rfl⟩ := nodeKeys_rootK (hdom k hk)
    exact rootK_nodeKeys (hold q hq)
  constructor
  · intro k r hk
    rcases Part.mixed_commit hlog k with h | ⟨r', hl, h⟩
    · rw [h, hdb.1] at hk
      exact hkeyed k r hk
    · rw [h] at hk
      cases hk
      exact hnew.keyed k r hl
  · intro k hk
    rcases Part.mixed_commit hlog k with h | ⟨r', hl, h⟩
    · rw [h, hdb.1] at hk
      exact hkeys k hk
    · have hg' : s'.getRec k = some r' := by
        unfold NodeStore.getRec
        rw [hdb.2, if_pos rfl, hl]
      have hgb : s.begin.getRec k = s.db.get? k := by
        simp [NodeStore.getRec, NodeStore.begin, hidle.2, NodeMap.get?]
      by_cases hsame : s'.getRec k = s.begin.getRec k
      · rw [hg', hgb] at hsame
        exact hkeys k (by rw [← hsame]; rfl)
      · obtain ⟨q, hq, rfl⟩ := hchg k hsame
        exact rootK_nodeKeys hq


end Akd.Lag

namespace Akd.C13
open Akd C01 C11

/-- the storage invariants of a directory state, next to `Refines` -/
structure StoreOK (c : Cfg) (d : Dir) (sp : Spec.State) : Prop where
  refines : Refines c d sp
  atEpoch : AtEpoch d.nodes.db sp.epoch
  keyed : WellKeyed d.nodes.db
  dom : ∀ k, (d.nodes.db.get? k).isSome → k ∈ nodeKeys (CRoot.ofLeaves (Spec.leaves c d.commitmentKey d.vrf sp.table))
  statesLe : ∀ x ∈ d.states, x.epoch ≤ sp.epoch

end Akd.C13

namespace Akd.Lag
open Akd C01 C11 Part
open Akd.C13 (StoreOK)

theorem statesLe_of_refines {c : Cfg} {d : Dir} {sp : Spec.State} (href : Refines c d sp) :
    ∀ x ∈ d.states, x.epoch ≤ sp.epoch := by
  intro x hx
  obtain ⟨v, hvm, _, he, _⟩ := href.states.1 x hx
  have := ((href.versions x.username).2 v hvm).2
  omega

theorem publish_step (c : Cfg) (hc : c.emptyLabel.len = 0) (d : Dir) (sp : Spec.State)
    (users : List Bytes) (N : Nat)
    (hv : C06.VrfOK d.vrf) (ht : VrfTotal d.vrf users N) (hN : sp.epoch + 2 ≤ N)
    (hinv : StoreOK c d sp) (b : List (Bytes × Bytes)) (hb : ∀ x ∈ b, x.1 ∈ users)
    (hnd0 : (b.map (·.1)).eraseDups.length = b.length) :
    ∃ d', d.publish c b = .ok (d', (Spec.applyBatch sp b).epoch,
          Spec.rootHash c d.commitmentKey d.vrf (Spec.applyBatch sp b)) ∧
      StoreOK c d' (Spec.applyBatch sp b) ∧ d'.vrf = d.vrf ∧ d'.commitmentKey = d.commitmentKey ∧
      (∀ e, e ≤ sp.epoch → C13.ViewLe d.nodes d'.nodes e) ∧
      ∃ extra, d'.states = d.states ++ extra ∧ ∀ x ∈ extra, sp.epoch < x.epoch := by
  obtain ⟨href, hat, hkeyed, hdom, hst⟩ := hinv
  rcases publish_cases c hc d sp users N hv ht hN href b hb hnd0 with
    ⟨hsp, hpub⟩ | ⟨n, els, s', n', extra, hep', _, hpf, hlen, htree, hrun, hextra, hpub, href'⟩
  · rw [hsp]
    exact ⟨d, hpub, ⟨href, hat, hkeyed, hdom, hst⟩, rfl, rfl, fun e _ => C13.ViewLe.refl _ _, [], by simp, fun x hx => nomatch hx⟩
  · obtain ⟨hwf, _, hbd⟩ := Pub.leafTree hv c d.commitmentKey href.tableOK
    have hep : ∀ lf ∈ (CRoot.ofLeaves (Spec.leaves c d.commitmentKey d.vrf sp.table)).leaves,
        1 ≤ lf.ep ∧ lf.ep ≤ (⟨sp.epoch, n⟩ : Azks).latestEpoch := fun lf hlf => (hbd lf hlf).2
    obtain ⟨s2, n2, hrun2, _, hat2⟩ := full_commit_visible c hc d.nodes ⟨sp.epoch, n⟩ _ href.idle href.tree
      hwf hat hep els hpf hlen
    simp only at hrun2 hat2
    rw [hrun] at hrun2
    obtain rfl : s' = s2 := by
      injection hrun2 with h; injection h with h _
    obtain ⟨hkeyed', hdom'⟩ := commit_db c hc d.nodes ⟨sp.epoch, n⟩ _ href.idle href.tree hwf hkeyed hdom hep
      els hpf hlen s' _ hrun
    simp only at hdom'
    rw [htree] at hdom'
    have hview : ∀ e, e ≤ sp.epoch → C13.ViewLe d.nodes s'.commit e := fun e he =>
      C13.viewLe_publish c hc d.nodes ⟨sp.epoch, n⟩ _ href.idle href.tree hwf hat hkeyed hdom hep els hpf hlen
        s' _ hrun e he
    have hat' : AtEpoch s'.commit.db (Spec.applyBatch sp b).epoch := hep' ▸ hat2
    rw [hep']
    exact ⟨_, hpub, ⟨href', hat', hkeyed', hdom', statesLe_of_refines href'⟩, rfl, rfl, hview, extra, rfl,
      fun x hx => Nat.lt_of_lt_of_eq (Nat.lt_succ_self _) (hextra x hx).symm⟩

/-- **every history from a state with the invariants**: the invariants hold at the end, earlier epochs' views only
shrink, and the value states added are of later epochs -/
theorem run_inv (c : Cfg) (hc : c.emptyLabel.len = 0) (users : List Bytes) (N : Nat) :
    ∀ (h : List (List (Bytes × Bytes))) (d : Dir) (sp : Spec.State),
      C06.VrfOK d.vrf → VrfTotal d.vrf users N → sp.epoch + h.length + 1 ≤ N → StoreOK c d sp →
      (∀ x ∈ sp.table, x.1 ∈ users) → (∀ b ∈ h, ∀ x ∈ b, x.1 ∈ users) →
      StoreOK c (runDir c d h) (h.foldl Spec.applyBatch sp) ∧ (runDir c d h).vrf = d.vrf ∧
        (runDir c d h).commitmentKey = d.commitmentKey ∧
        (h.foldl Spec.applyBatch sp).epoch ≤ sp.epoch + h.length ∧
        (∀ x ∈ (h.foldl Spec.applyBatch sp).table, x.1 ∈ users) ∧
        (∀ e, e ≤ sp.epoch → C13.ViewLe d.nodes (runDir c d h).nodes e) ∧
        ∃ extra, (runDir c d h).states = d.states ++ extra ∧ ∀ x ∈ extra, sp.epoch < x.epoch := by
  intro h
  induction h with
  | nil =>
    intro d sp _ _ _ hinv hu _
    exact ⟨hinv, rfl, rfl, Nat.le_refl _, hu, fun e _ => C13.ViewLe.refl _ _, [], by simp [runDir],
      fun x hx => nomatch hx⟩
  | cons b rest ih =>
    intro d sp hv ht hN hinv hu hb
    simp only [List.length_cons] at hN
    have hle := Pub.applyBatch_epoch_le sp b
    have hge := Pub.applyBatch_epoch_ge sp b
    have hu' : ∀ x ∈ (Spec.applyBatch sp b).table, x.1 ∈ users := by
      intro x hx
      rcases Pub.applyBatch_keys sp b x hx with h | h
      · obtain ⟨y, hy, hyx⟩ := List.mem_map.1 h
        exact hyx ▸ hb b List.mem_cons_self y hy
      · exact hu x h
    have hb' : ∀ b' ∈ rest, ∀ x ∈ b', x.1 ∈ users := fun b' hb'' => hb b' (List.mem_cons_of_mem _ hb'')
    rw [List.foldl_cons]
    by_cases hdup : (b.map (·.1)).eraseDups.length = b.length
    · obtain ⟨d', hpub, hinv', hvrf, hkey, hview, extra, hst, hextra⟩ :=
        publish_step c hc d sp users N hv ht (by omega) hinv b (hb b List.mem_cons_self) hdup
      have hrun : runDir c d (b :: rest) = runDir c d' rest := by
        simp only [runDir, hpub]
      obtain ⟨i1, i2, i3, i4, i5, i6, extra', i7, i8⟩ := ih d' _ (hvrf ▸ hv) (hvrf ▸ ht)
        (by omega) hinv' hu' hb'
      rw [hrun]
      refine ⟨i1, i2.trans hvrf, i3.trans hkey, by simp only [List.length_cons]; omega, i5, ?_,
        extra ++ extra', by rw [i7, hst, List.append_assoc], ?_⟩
      · intro e he
        exact C13.ViewLe.trans (hview e he) (i6 e (by omega))
      · intro x hx
        rcases List.mem_append.1 hx with hx | hx
        · exact hextra x hx
        · have := i8 x hx; omega
    · simp only [runDir, publish_dup c d b hdup, Pub.applyBatch_dup sp b hdup]
      obtain ⟨i1, i2, i3, i4, i5, i6, i7⟩ := ih d sp hv ht (by omega) hinv hu hb'
      exact ⟨i1, i2, i3, by simp only [List.length_cons]; omega, i5, i6, i7⟩

/-- the requests of an instance that holds `d`'s epoch record and reads the storage reached after the further
history `h` -/
theorem lagging_run (c : Cfg) (hc : c.emptyLabel.len = 0) (users : List Bytes) (N : Nat)
    (h : List (List (Bytes × Bytes))) (d : Dir) (sp : Spec.State)
    (hv : C06.VrfOK d.vrf) (ht : VrfTotal d.vrf users N) (hN : sp.epoch + h.length + 1 ≤ N) (hinv : StoreOK c d sp)
    (hu : ∀ x ∈ sp.table, x.1 ∈ users) (hb : ∀ b ∈ h, ∀ x ∈ b, x.1 ∈ users) (dlag : Dir)
    (hlag : dlag = { runDir c d h with azks := d.azks }) :
    (dlag.epochHash c = d.epochHash c ∨ ∃ x, dlag.epochHash c = .error x) ∧
    (∀ u, dlag.lookup c u = d.lookup c u ∨ ∃ x, dlag.lookup c u = .error x) ∧
    (∀ u p, dlag.keyHistory c u p = d.keyHistory c u p ∨ ∃ x, dlag.keyHistory c u p = .error x) ∧
    (∀ s0 e0, dlag.audit c s0 e0 = d.audit c s0 e0 ∨ ∃ x, dlag.audit c s0 e0 = .error x) := by
  obtain ⟨_, i2, i3, _, _, i6, extra, i7, i8⟩ := run_inv c hc users N h d sp hv ht hN hinv hu hb
  obtain ⟨n, hazks⟩ := hinv.refines.azks
  subst hlag
  exact C13.lagging_requests c d _ ⟨sp.epoch, n⟩ hazks hazks i2 i3 (i6 sp.epoch (Nat.le_refl _)) hinv.statesLe
    extra i8 i7

end Akd.Lag
