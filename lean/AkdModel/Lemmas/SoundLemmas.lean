/-
What the base checks of the client verifiers check, as equivalences (read left to right for soundness,
`Thm/C06.lean` / `Thm/C07.lean`; right to left for completeness, `Lemmas/GenChecks.lean`), and what an
accepted tree proof means against an arbitrary well-formed tree with 256-bit leaves.  The
honest-directory predicate (`C06.HonestFor`) only enters in `Thm/C06.lean`.
-/
import AkdModel.Verify
import AkdModel.Spec
import AkdModel.Thm.C05
namespace Akd.Snd
open Akd

theorem ofBits_bits_256 (l : NodeLabel) (h : l.len = 256) : NodeLabel.ofBits l.bits = l :=
  C17.ofBits_bits l (Nat.le_of_eq h) (NodeLabel.normalised_of_len_ge l (Nat.le_of_eq h.symm))

theorem bits_length_256 (l : NodeLabel) (h : l.len = 256) : l.bits.length = 256 := by
  rw [NodeLabel.bits_length, h]; rfl

theorem eq_bits_of_ofBits {bs : BitStr} {l : NodeLabel} (hb : bs.length = 256)
    (h : NodeLabel.ofBits bs = l) : bs = l.bits := by
  rw [← h, C17.bits_ofBits bs (Nat.le_of_eq hb)]

/-- the verifiers are chains of `if check fails then error else …` -/
theorem ite_error_eq_ok {ε α : Type} {p : Prop} [Decidable p] {e : ε} {x : Except ε α} {a : α} :
    (if p then .error e else x) = .ok a ↔ ¬ p ∧ x = .ok a := by
  by_cases h : p <;> simp [h]

theorem verifyLabel_iff {vrf : VrfTable} {u : Bytes} {fresh : Bool} {ver : Nat} {pf : VrfProof}
    {nl : NodeLabel} :
    Verify.verifyLabel vrf u fresh ver pf nl = true ↔
      pf = some ⟨u, fresh, ver⟩ ∧ vrf.get? ⟨u, fresh, ver⟩ = some nl := by
  cases pf with
  | none => simp [Verify.verifyLabel]
  | some cl =>
    simp only [Verify.verifyLabel, Bool.and_eq_true, decide_eq_true_eq, Option.some.injEq]
    constructor
    · rintro ⟨⟨⟨rfl, rfl⟩, rfl⟩, h⟩
      refine ⟨rfl, ?_⟩
      split at h
      · rename_i hg; rw [hg, of_decide_eq_true h]
      · cases h
    · rintro ⟨rfl, h⟩
      simp [h]

section
variable {c : Cfg} {vrf : VrfTable} {root : Dig} {u : Bytes} {fresh : Bool} {ver : Nat} {pf : VrfProof}

theorem existence_iff {mp : MembershipProof} :
    Verify.existence c vrf root u fresh ver pf mp = .ok () ↔
      pf = some ⟨u, fresh, ver⟩ ∧ vrf.get? ⟨u, fresh, ver⟩ = some mp.label ∧
        verifyMembership c root mp = true := by
  simp only [Verify.existence, ite_error_eq_ok, Bool.not_eq_true', Bool.not_eq_false, verifyLabel_iff,
    and_true, and_assoc]

theorem existenceWithCommitment_iff {cm : Dig} {ep : Nat} {mp : MembershipProof} :
    Verify.existenceWithCommitment c vrf root u cm ep fresh ver pf mp = .ok () ↔
      mp.hashVal = c.leafHash cm ep ∧ Verify.existence c vrf root u fresh ver pf mp = .ok () := by
  simp only [Verify.existenceWithCommitment, ite_error_eq_ok, ne_eq, Decidable.not_not, eq_comm (b := mp.hashVal)]

theorem existenceWithVal_iff {value : Bytes} {ep : Nat} {nonce : Dig} {mp : MembershipProof} :
    Verify.existenceWithVal c vrf root u value ep nonce fresh ver pf mp = .ok () ↔
      mp.hashVal = c.leafHash (c.commit value nonce) ep ∧
        Verify.existence c vrf root u fresh ver pf mp = .ok () := by
  simp only [Verify.existenceWithVal, ite_error_eq_ok, ne_eq, Decidable.not_not, eq_comm (b := mp.hashVal)]

theorem nonexistence_iff {np : NonMembershipProof} :
    Verify.nonexistence c vrf root u fresh ver pf np = .ok () ↔
      pf = some ⟨u, fresh, ver⟩ ∧ vrf.get? ⟨u, fresh, ver⟩ = some np.label ∧
        verifyNonMembership c root np = true := by
  simp only [Verify.nonexistence, ite_error_eq_ok, Bool.not_eq_true', Bool.not_eq_false, verifyLabel_iff,
    and_true, and_assoc]

end

theorem lookup_ok {c : Cfg} {vrf : VrfTable} {root : Dig} {E : Nat} {u : Bytes} {π : LookupProof}
    {r : Verify.VerifyResult} (h : Verify.lookup c vrf root E u π = .ok r) :
    π.version ≤ E ∧ π.version ≠ 0 ∧ r = ⟨π.epoch, π.version, π.value⟩ ∧
    Verify.existenceWithVal c vrf root u π.value π.epoch π.commitmentNonce true π.version
      π.existenceVrf π.existence = .ok () ∧
    Verify.existence c vrf root u true (Dir.markerVersion π.version) π.markerVrf π.marker = .ok () ∧
    Verify.nonexistence c vrf root u false π.version π.freshnessVrf π.freshness = .ok () := by
  unfold Verify.lookup at h
  split at h
  · cases h
  rename_i h0
  split at h
  · cases h
  rename_i h1
  split at h
  · cases h
  rename_i h2
  split at h
  · cases h
  rename_i h3
  split at h
  · cases h
  rename_i h4
  injection h with h
  exact ⟨Nat.le_of_not_gt h0, h2, h.symm, h1, h3, h4⟩

theorem leaf_of_membership (c : Cfg) (hc : c.Lawful) (t : CRoot) (h256 : C05.Leaves256 t)
    (mp : MembershipProof) (v : Dig) (e : Nat) (hv : mp.hashVal = c.leafHash v e)
    (h : verifyMembership c (t.rootHash c) mp = true) :
    ∃ lf ∈ t.leaves, lf.lbl = mp.label.bits ∧ lf.value = v ∧ lf.ep = e := by
  obtain ⟨lf, hlf, h1, h2, h3⟩ := C05.membership_sound_leaf c hc t mp v e hv h
  exact ⟨lf, hlf, eq_bits_of_ofBits (h256 lf hlf) h1, h2, h3⟩

/-- whatever digest it carries, an accepted membership proof for a 256-bit label is about a leaf -/
theorem leaf_of_membership_256 (c : Cfg) (hc : c.Lawful) (hfresh : C05.EmptyLabelFresh c)
    (t : CRoot) (hwf : t.WF) (h256 : C05.Leaves256 t)
    (mp : MembershipProof) (hl : mp.label.len = 256)
    (h : verifyMembership c (t.rootHash c) mp = true) :
    ∃ lf ∈ t.leaves, lf.lbl = mp.label.bits := by
  rcases CRoot.verifyMembership_cases c hc t mp h with
    ⟨h1, -⟩ | ⟨o, ho, ⟨-, h1, -⟩ | ⟨a, s, rfl, hs, h1, -⟩⟩
  · rw [h1] at hl; exact absurd hl (by decide)
  · exfalso
    rw [h1] at hl
    exact hfresh c.emptyLabel.bits (Nat.le_of_eq (bits_length_256 _ hl)) (ofBits_bits_256 _ hl)
  · have hch : t.Child a := ho.elim (fun h => Or.inl h.symm) (fun h => Or.inr h.symm)
    have hsub : ∀ lf ∈ s.leaves, lf ∈ t.leaves := fun lf hlf =>
      CRoot.mem_leaves.mpr ⟨a, hch, hs.leaves_subset hlf⟩
    cases s with
    | leaf q w f =>
      have hm : (⟨q, w, f⟩ : Leaf) ∈ t.leaves := hsub _ (by simp [CTree.leaves])
      exact ⟨⟨q, w, f⟩, hm, eq_bits_of_ofBits (h256 _ hm) h1.symm⟩
    | node q l r =>
      exfalso
      have hswf : (CTree.node q l r).WF := CTree.WF.sub hs (CRoot.WF.child hwf hch)
      have := CTree.WF.node_length_lt hswf (fun lf hlf => h256 lf (hsub lf hlf))
      rw [h1] at hl
      simp only [CTree.lbl, NodeLabel.ofBits_len] at hl
      omega

theorem no_leaf_of_nonmembership (c : Cfg) (hc : c.Lawful) (hfresh : C05.EmptyLabelFresh c)
    (t : CRoot) (hwf : t.WF) (h256 : C05.Leaves256 t)
    (np : NonMembershipProof) (hl : np.label.len = 256)
    (h : verifyNonMembership c (t.rootHash c) np = true) :
    ∀ lf ∈ t.leaves, lf.lbl ≠ np.label.bits := by
  intro lf hlf he
  apply C05.nonmembership_sound c hc hfresh t hwf h256 np h lf hlf
  rw [he, ofBits_bits_256 _ hl]

end Akd.Snd
