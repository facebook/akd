/-
Key history, verification: the honest history proof over a tree that is honest for the
label (`C06.HonestFor`) is accepted by `Verify.history`, in both modes, with the expected result.
-/
import AkdModel.Lemmas.GenHistoryGen
namespace Akd.Gen
open Akd

theorem verifyAll_ok_of_forall {α β γ} (f : α → β × γ → Except VErr Unit) (g1 : α → β) (g2 : α → γ) :
    ∀ l : List α, (∀ x ∈ l, f x (g1 x, g2 x) = .ok ()) →
      Verify.verifyAll f l ((l.map g1).zip (l.map g2)) = .ok ()
  | [], _ => rfl
  | a :: l, h => by
    simp only [List.map_cons, List.zip_cons_cons, Verify.verifyAll, h a List.mem_cons_self]
    exact verifyAll_ok_of_forall f g1 g2 l (fun x hx => h x (List.mem_cons_of_mem _ hx))

theorem verifyUpdates_honest (c : Cfg) (vrf : VrfTable) (root : Dig) (u : Bytes) (allow : Bool)
    (f : Spec.Ver → UpdateProof) (hf : ∀ v, (f v).epoch = v.epoch) :
    ∀ (l : List Spec.Ver) (prev : Option Nat),
      (∀ v ∈ l, Verify.singleUpdate c vrf root u allow (f v) = .ok (C07.resultOf v)) →
      l.Pairwise (fun a b => a.epoch > b.epoch) → (∀ pe, prev = some pe → ∀ v ∈ l, v.epoch ≤ pe) →
      Verify.verifyUpdates c vrf root u allow prev (l.map f) = .ok (l.map C07.resultOf)
  | [], _, _, _, _ => rfl
  | a :: l, prev, h, hp, hprev => by
    have ih := verifyUpdates_honest c vrf root u allow f hf l (some (f a).epoch)
      (fun v hv => h v (List.mem_cons_of_mem _ hv)) hp.of_cons
      (fun pe hpe v hv => by
        cases hpe
        rw [hf]
        exact Nat.le_of_lt (List.rel_of_pairwise_cons hp hv))
    cases prev with
    | none =>
      simp only [List.map_cons, Verify.verifyUpdates, h a List.mem_cons_self, ih, Bool.false_eq_true, if_false]
    | some pe =>
      have : ¬ (f a).epoch > pe := by
        have := hprev pe rfl a List.mem_cons_self
        rw [hf]; omega
      simp only [List.map_cons, Verify.verifyUpdates, h a List.mem_cons_self, ih, this, decide_false,
        Bool.false_eq_true, if_false]

theorem withHistoryParams_honest (E L : Nat) (π : HistoryProof) (p : HistoryParams) (past future : List Nat)
    (hD : DescFrom L (π.updates.map (·.version))) (hLE : L ≤ E)
    (hparams : π.updates.length = match p with
      | .complete => L
      | .mostRecent r => min r L)
    (hm : Marker.markers? (L + 1 - π.updates.length) L E = some (past, future))
    (h1 : past.length = π.pastVrf.length) (h2 : π.pastVrf.length = π.past.length)
    (h3 : future.length = π.futureVrf.length) (h4 : π.futureVrf.length = π.future.length) :
    Verify.withHistoryParams E π p = .ok (past, future) := by
  have hk1 := hD.pos
  have hkL := hD.le
  rw [List.length_map] at hk1 hkL
  refine Snd.withHistoryParams_iff.2 ⟨L, hk1, fun i hi => ?_, hkL, hLE, (Snd.paramsOK_length hkL).2 hparams, hm,
    ⟨h1, h2⟩, ⟨h3, h4⟩⟩
  have := hD.get i (by rwa [List.length_map])
  rw [List.getElem_map] at this
  rw [this]
  exact Nat.sub_add_cancel (Nat.le_trans (Nat.le_of_lt hi) hkL)

section
variable {c : Cfg} {key : Dig} {vrf : VrfTable} {t : CRoot} {u : Bytes} {vs : List Spec.Ver}

theorem honestUpdate_verifies (hv : C06.VrfOK vrf) (hwf : t.WF) (hon : C06.HonestFor c key vrf t u vs)
    (v : Spec.Ver) (hmem : v ∈ vs)
    (hsome : v.version > 1 → (vrf.get? ⟨u, false, v.version - 1⟩).isSome) (allow : Bool) :
    Verify.singleUpdate c vrf (t.rootHash c) u allow (honestUpdate c key vrf t u v) = .ok (C07.resultOf v) := by
  obtain ⟨h1, h2⟩ := fresh_existence hv hwf hon v hmem
  have h3 := Snd.existenceWithVal_iff.2 ⟨h1, h2⟩
  unfold Verify.singleUpdate honestUpdate
  by_cases hgt : v.version > 1
  · have h4 := stale_existence hv hwf hon v hmem hgt (hsome hgt)
    have hle : ¬ v.version ≤ 1 := Nat.not_le_of_gt hgt
    simp only [h2, h3, ite_self, hgt, hle, if_true, h4, C07.resultOf]
  · have hle : v.version ≤ 1 := Nat.le_of_not_gt hgt
    simp only [h2, h3, ite_self, hle, if_true, C07.resultOf]

/-- For ANY update proofs with the expected version numbers the parameter and marker checks pass, so the
verifier answers what its loop over the update proofs answers: this also serves the tombstoned history
(`Tomb`, C03), whose update proofs are not the honest ones. -/
theorem history_honest (hc : c.Lawful) (hfresh : C05.EmptyLabelFresh c) (hv : C06.VrfOK vrf) (hwf : t.WF)
    (h256 : C05.Leaves256 t) (hon : C06.HonestFor c key vrf t u vs) (hne : vs ≠ [])
    (E : Nat) (hE : vs.length ≤ E)
    (hfut : ∀ x, vs.length < x → x ≤ E → (vrf.get? ⟨u, true, x⟩).isSome)
    (p : HistoryParams) (hp : ∀ n, p = .mostRecent n → 1 ≤ n) (allow : Bool)
    (past future : List Nat)
    (hm : Marker.markers? (vs.length + 1 - (C07.expected vs p).length) vs.length E = some (past, future))
    (ups : List UpdateProof) (hex : ups.map (·.version) = (C07.expected vs p).map (·.version)) :
    Verify.history c vrf (t.rootHash c) E u { honestHistory c key vrf t u [] past future with updates := ups } p allow
      = Verify.verifyUpdates c vrf (t.rootHash c) u allow none ups := by
  have hD := expected_descFrom vs hon.versions hne p hp
  obtain ⟨hpb, hfb⟩ := markers_bounds hm
  have hk : ups.length = (C07.expected vs p).length := by simpa using congrArg List.length hex
  have hw : Verify.withHistoryParams E { honestHistory c key vrf t u [] past future with updates := ups } p
      = .ok (past, future) := by
    apply withHistoryParams_honest E vs.length _ p past future
    · rw [hex]
      exact hD
    · exact hE
    · rw [hk]
      exact C07.expected_length vs p
    · rw [hk]
      exact hm
    all_goals simp only [honestHistory, List.length_map]
  have hpast := verifyAll_ok_of_forall (fun (x : Nat) (y : VrfProof × MembershipProof) =>
      Verify.existence c vrf (t.rootHash c) u true x y.1 y.2) (fun x => some ⟨u, true, x⟩)
    (fun x => t.genMembership c (lab vrf u true x).bits) past
    fun x hx => past_existence hv hwf hon x (hpb x hx).1
      (Nat.le_of_lt_succ (Nat.lt_of_lt_of_le (hpb x hx).2 (Nat.sub_le _ _)))
  unfold Verify.history
  rw [hw]
  simp only [honestHistory] at hpast ⊢
  cases Verify.verifyUpdates c vrf (t.rootHash c) u allow none ups with
  | error e => rfl
  | ok rs =>
    simp only [hpast]
    rw [verifyAll_ok_of_forall _ _ _ future]
    intro x hx
    simp only [future_nonexistence hc hfresh hv hwf h256 hon hne x (hfb x hx).1 (hfut x (hfb x hx).1 (hfb x hx).2)]

theorem honestHistory_verifies (hc : c.Lawful) (hfresh : C05.EmptyLabelFresh c) (hv : C06.VrfOK vrf) (hwf : t.WF)
    (h256 : C05.Leaves256 t) (hon : C06.HonestFor c key vrf t u vs) (hne : vs ≠ [])
    (E : Nat) (hE : vs.length ≤ E)
    (hstale : ∀ x, 1 ≤ x → x < vs.length → (vrf.get? ⟨u, false, x⟩).isSome)
    (hfut : ∀ x, vs.length < x → x ≤ E → (vrf.get? ⟨u, true, x⟩).isSome)
    (p : HistoryParams) (hp : ∀ n, p = .mostRecent n → 1 ≤ n) (allow : Bool)
    (past future : List Nat)
    (hm : Marker.markers? (vs.length + 1 - (C07.expected vs p).length) vs.length E = some (past, future)) :
    Verify.history c vrf (t.rootHash c) E u (honestHistory c key vrf t u (C07.expected vs p) past future) p allow
      = .ok ((C07.expected vs p).map C07.resultOf) := by
  have hex : ((C07.expected vs p).map (honestUpdate c key vrf t u)).map (·.version)
      = (C07.expected vs p).map (·.version) := by
    rw [List.map_map]
    rfl
  refine (history_honest hc hfresh hv hwf h256 hon hne E hE hfut p hp allow past future hm _ hex).trans ?_
  refine verifyUpdates_honest c vrf (t.rootHash c) u allow _ (fun _ => rfl) _ none (fun v hvm => ?_)
    (expected_sorted vs hon.versions p) (fun pe hpe => nomatch hpe)
  have hvm' := expected_mem vs p hvm
  have hb := hon.versions.version_le hvm'
  exact honestUpdate_verifies hv hwf hon v hvm' (fun hgt => hstale _ (Nat.le_sub_of_add_le hgt)
    (Nat.lt_of_lt_of_le (Nat.sub_lt hb.1 Nat.one_pos) hb.2)) allow

end

end Akd.Gen
