/-
The induction over `insertRec`: the root level (`batchInsert`).
-/
import AkdModel.Lemmas.InsertCases
namespace Akd.Ins
open Akd NodeLabel NodeStore
open Akd.Canon (Incomp)

def RepRoot (c : Cfg) (m : InsertMode) (s : NodeStore) (t : CRoot) : Prop :=
  (∃ r, s.getRec NodeLabel.root = some r ∧ r.latest.label = NodeLabel.root ∧ r.latest.nodeType = .root ∧
    r.latest.left = olbl t.l ∧ r.latest.right = olbl t.r ∧
    r.latest.hash = t.value c (hm m) ∧
    r.latest.lastEpoch = oMax t.l t.r ∧ r.latest.minDescEpoch = oMin t.l t.r)
  ∧ (∀ a, t.l = some a → Rep c m s a) ∧ (∀ b, t.r = some b → Rep c m s b)

/-- the root level, for a tree whose leaves are not newer than the epoch being inserted (they may be OF that
epoch: a second sub-batch within one epoch, C14) -/
theorem batchInsert_root {K : BitStr → Prop} {I : NodeStore → Prop}
    (c : Cfg) (hc : c.emptyLabel.len = 0) (m : InsertMode)
    (s : NodeStore) (a : Azks) (t : CRoot)
    (hrep : RepRoot c m s t) (hwf : t.WF)
    (hep : ∀ lf ∈ t.leaves, 1 ≤ lf.ep ∧ lf.ep ≤ a.latestEpoch + 1)
    (els : List (BitStr × Dig))
    (hpf : (t.leaves ++ newLeaves els (a.latestEpoch + 1)).Pairwise Incomp)
    (hlen : ∀ lf ∈ t.leaves ++ newLeaves els (a.latestEpoch + 1), 1 ≤ lf.lbl.length ∧ lf.lbl.length ≤ 256)
    (hI : WriteInv (a.latestEpoch + 1) K I) (hti : I s)
    (hgk : ∀ d : Bool, GK K [d] (if d then t.r else t.l)) :
    ∃ s' n t', s.batchInsert c m a (els.map enc) = .ok (s', ⟨a.latestEpoch + 1, n⟩) ∧
      RepRoot c m s' t' ∧ t'.WF ∧ t'.leaves.Perm (t.leaves ++ newLeaves els (a.latestEpoch + 1)) ∧
      I s' ∧ Chg s s' (RootK t') ∧ ∀ q, RootK t q → RootK t' q := by
  by_cases hels : els = []
  · subst hels
    exact ⟨s, a.numNodes, t, rfl, hrep, hwf, by simp [newLeaves], hti, Chg.refl _ _, fun _ h => h⟩
  generalize hepoch : a.latestEpoch + 1 = epoch at hpf hlen hI hti
  have hep1 : 1 ≤ epoch := by omega
  have hlenE : ∀ b ∈ els, 1 ≤ b.1.length ∧ b.1.length ≤ 256 := fun b hb =>
    hlen ⟨b.1, b.2, epoch⟩ (List.mem_append_right _ (List.mem_map_of_mem hb))
  obtain ⟨bs, hperm, hb⟩ := ofList_spec els (fun b hb => (hlenE b hb).2)
  have hne : bs ≠ [] := fun h => hels (by rw [h] at hperm; exact hperm.symm.eq_nil)
  have hlenB : ∀ b ∈ bs, 1 ≤ b.1.length := fun b hb => (hlenE b (hperm.mem_iff.1 hb)).1
  have hpfB : (t.leaves ++ newLeaves bs epoch).Pairwise Incomp :=
    (List.Perm.pairwise_iff (fun h => Incomp.symm h)
      (List.Perm.append_left _ (hperm.map _))).2 hpf
  obtain ⟨⟨r, hg, r1, r2, r3, r4, r5, r6, r7⟩, hrl, hrr⟩ := hrep
  have hlokT : ∀ lf ∈ t.leaves, LeafOK epoch lf := fun lf h =>
    ⟨(hep lf h).1, by have := (hep lf h).2; omega, (hlen lf (List.mem_append_left _ h)).2⟩
  have hgn : s.getNode (ofBits []) epoch = .ok r.latest := by
    rw [ofBits_nil]
    exact getNode_latest s _ r epoch hg (by rw [r6]; exact oMax_le _ _ _ (fun lf h => (hlokT lf h).2.1))
  -- Phase 1 keeps the root node: its label is a prefix of everything
  have h1 : phase1 c epoch s (some NodeLabel.root) (ElementSet.ofList (els.map enc))
      = .ok (s, r.latest, false, 0) := by
    rw [← ofBits_nil, phase1_some c hc epoch s hgn (Nat.zero_le _) hb hne hlenB]
    exact if_neg (Nat.not_lt_zero _)
  have hst : St c m epoch [] .root s r.latest (fun b => if b then t.r else t.l) :=
    ⟨r1.trans ofBits_nil.symm, r2, fun d => by cases d; exact r3; exact r4, .inr r6, .inl r7, fun d x hx => by
      cases d
      · have hx : t.l = some x := hx
        exact ⟨hrl x hx, (hwf.1 x hx).2, (hwf.1 x hx).1, fun lf h => hlokT lf (by simp [CRoot.leaves, hx, h])⟩
      · have hx : t.r = some x := hx
        exact ⟨hrr x hx, (hwf.2 x hx).2, (hwf.2 x hx).1, fun lf h => hlokT lf (by simp [CRoot.leaves, hx, h])⟩⟩
  obtain ⟨s', cur', num', ch', hrun, hst', hhash, hlast, hmax, hmin, hperm', _, hti', hchg, hold⟩ :=
    finish c m epoch 299 hep1 hI (spec_all c m epoch hc hep1 hI 299) hst (by decide) (by simp) false 0
      hb hne (fun b hb' => hlenB b hb') hpfB hti hgk
  obtain ⟨s2, hw⟩ := writeNode_total s' cur' false
  -- there is a new leaf, so the root has a child
  obtain ⟨b0, hb0⟩ := List.exists_mem_of_ne_nil bs hne
  have hvalue : cur'.hash = CRoot.value c (hm m) ⟨ch' false, ch' true⟩ := by
    have hnew : (⟨b0.1, b0.2, epoch⟩ : Leaf) ∈ oleaves (ch' false) ++ oleaves (ch' true) :=
      hperm'.mem_iff.2 (List.mem_append_right _ (List.mem_map_of_mem hb0))
    rw [hhash]
    unfold CRoot.value
    cases h0 : ch' false <;> cases h1 : ch' true <;> first | rfl | simp [h0, h1, oleaves] at hnew
  -- the write of the root record leaves the sub-trees alone
  have hchgR : Chg s' s2 (· = []) := chg_writeNode hw [] hst'.label rfl
  have hkid : ∀ d x, ch' d = some x → Rep c m s2 x ∧ [d] <+: x.lbl ∧ x.WF := by
    intro d x hx
    obtain ⟨k1, k2, k3, k4⟩ := hst'.sub d x hx
    refine ⟨rep_chg hchgR x k2 (fun lf h => (k4 lf h).2.2) ?_ k1, k3, k2⟩
    rintro _ rfl
    exact ⟨Nat.zero_le _, fun h => by have := (k3.trans h).length_le; simp at this⟩
  obtain ⟨r', hg', hr'⟩ := getRec_writeNode_self hw
  refine ⟨s2, a.numNodes + num', ⟨ch' false, ch' true⟩, ?_,
    ⟨⟨r', ?_, ?_⟩, fun x hx => (hkid false x hx).1, fun x hx => (hkid true x hx).1⟩,
    ⟨fun x hx => (hkid false x hx).2, fun x hx => (hkid true x hx).2⟩,
    hperm'.trans (List.Perm.append_left _ (hperm.map _)), hI.atEpoch hti' hlast hw,
    (hchg.mono (fun q h => .inr (List.mem_append.2 h))).trans (hchgR.mono (fun q h => .inl h)),
    fun q h => h.imp id (fun h => List.mem_append.2 ((List.mem_append.1 h).imp (hold false q) (hold true q)))⟩
  · unfold batchInsert
    simp only [hepoch]
    rw [hb.isEmpty hne]
    simp only [Bool.false_eq_true, if_false]
    rw [show (300 : Nat) = 299 + 1 from rfl, insertRec_succ, h1]
    simp only
    rw [hrun]
    simp only
    rw [hw]
  · rw [← ofBits_nil, ← hst'.label]
    exact hg'
  · rw [hr']
    exact ⟨hst'.label.trans ofBits_nil, hst'.type, hst'.child false, hst'.child true, hvalue, hlast.trans hmax.symm, hmin⟩

end Akd.Ins
