/-
Blob names (C19): raw string positions on `String.ofList`, `String.splitOn` with a
one-character separator, decimal and hex round trips.
-/
import AkdModel.Blob
namespace Akd.Blob
open String (Pos.Raw)

/-- the byte position at which `cs` ends in `String.ofList (cs ++ _)` -/
def utf8Len : List Char → Nat
  | [] => 0
  | c :: cs => c.utf8Size + utf8Len cs

theorem utf8Len_append (a b : List Char) : utf8Len (a ++ b) = utf8Len a + utf8Len b := by
  induction a with
  | nil => simp [utf8Len]
  | cons c cs ih => simp [utf8Len, ih, Nat.add_assoc]

theorem utf8ByteSize_ofList (cs : List Char) : (String.ofList cs).utf8ByteSize = utf8Len cs := by
  induction cs with
  | nil => rfl
  | cons c cs ih =>
    rw [String.ofList_cons, String.utf8ByteSize_append, String.utf8ByteSize_singleton, ih]; rfl

theorem utf8Len_eq_zero (cs : List Char) (h : utf8Len cs = 0) : cs = [] := by
  cases cs with
  | nil => rfl
  | cons c cs =>
    have := Char.utf8Size_pos c
    simp only [utf8Len] at h; omega

theorem pos_add_char (i : Nat) (c : Char) : (⟨i⟩ : Pos.Raw) + c = ⟨i + c.utf8Size⟩ := rfl

theorem utf8GetAux_of_valid (cs cs' : List Char) (i p : Nat) (hp : i + utf8Len cs = p) :
    Pos.Raw.utf8GetAux (cs ++ cs') ⟨i⟩ ⟨p⟩ = cs'.headD default := by
  induction cs generalizing i with
  | nil =>
    simp only [utf8Len, Nat.add_zero] at hp
    subst hp
    cases cs' with
    | nil => rfl
    | cons c cs' => simp [Pos.Raw.utf8GetAux]
  | cons c cs ih =>
    have hpos := Char.utf8Size_pos c
    simp only [utf8Len] at hp
    have hne : (⟨i⟩ : Pos.Raw) ≠ ⟨p⟩ := by
      intro h; injection h with h; omega
    simp only [List.cons_append, Pos.Raw.utf8GetAux, if_neg hne, pos_add_char]
    exact ih (i + c.utf8Size) (by omega)

theorem get_of_valid (cs cs' : List Char) :
    Pos.Raw.get (String.ofList (cs ++ cs')) ⟨utf8Len cs⟩ = cs'.headD default := by
  unfold Pos.Raw.get
  rw [String.toList_ofList]
  exact utf8GetAux_of_valid cs cs' 0 _ (by simp)

theorem next_of_valid (cs : List Char) (c : Char) (cs' : List Char) :
    Pos.Raw.next (String.ofList (cs ++ c :: cs')) ⟨utf8Len cs⟩ = ⟨utf8Len cs + c.utf8Size⟩ := by
  unfold Pos.Raw.next
  rw [get_of_valid]
  rfl

theorem atEnd_of_valid (cs cs' : List Char) :
    Pos.Raw.atEnd (String.ofList (cs ++ cs')) ⟨utf8Len cs⟩ = decide (cs' = []) := by
  unfold Pos.Raw.atEnd
  simp only [utf8ByteSize_ofList, utf8Len_append]
  by_cases h : cs' = []
  · subst h; simp [utf8Len]
  · have : utf8Len cs' ≠ 0 := fun h0 => h (utf8Len_eq_zero _ h0)
    simp only [h, decide_false, decide_eq_false_iff_not]
    omega

theorem go₂_of_valid (m r : List Char) (i e : Nat) (he : i + utf8Len m = e) :
    Pos.Raw.extract.go₂ (m ++ r) ⟨i⟩ ⟨e⟩ = m := by
  induction m generalizing i with
  | nil =>
    simp only [utf8Len, Nat.add_zero] at he
    subst he
    cases r with
    | nil => rfl
    | cons c r => simp [Pos.Raw.extract.go₂]
  | cons c m ih =>
    have hpos := Char.utf8Size_pos c
    simp only [utf8Len] at he
    have hne : (⟨i⟩ : Pos.Raw) ≠ ⟨e⟩ := by
      intro h; injection h with h; omega
    simp only [List.cons_append, Pos.Raw.extract.go₂, if_neg hne, pos_add_char]
    rw [ih (i + c.utf8Size) (by omega)]

theorem go₁_of_valid (l m r : List Char) (i b e : Nat) (hb : i + utf8Len l = b) (he : b + utf8Len m = e) :
    Pos.Raw.extract.go₁ (l ++ m ++ r) ⟨i⟩ ⟨b⟩ ⟨e⟩ = m := by
  induction l generalizing i with
  | nil =>
    simp only [utf8Len, Nat.add_zero] at hb
    subst hb
    cases m with
    | nil =>
      cases r with
      | nil => rfl
      | cons c r =>
        simp only [utf8Len, Nat.add_zero] at he
        subst he
        simp [Pos.Raw.extract.go₁, Pos.Raw.extract.go₂]
    | cons c m =>
      simp only [List.nil_append, List.cons_append, Pos.Raw.extract.go₁, if_true]
      exact go₂_of_valid (c :: m) r i e he
  | cons c l ih =>
    have hpos := Char.utf8Size_pos c
    simp only [utf8Len] at hb
    have hne : (⟨i⟩ : Pos.Raw) ≠ ⟨b⟩ := by
      intro h; injection h with h; omega
    simp only [List.cons_append, Pos.Raw.extract.go₁, if_neg hne, pos_add_char]
    exact ih (i + c.utf8Size) (by omega)

theorem extract_of_valid (l m r : List Char) :
    Pos.Raw.extract (String.ofList (l ++ m ++ r)) ⟨utf8Len l⟩ ⟨utf8Len l + utf8Len m⟩ = String.ofList m := by
  unfold Pos.Raw.extract
  simp only [String.toList_ofList]
  by_cases hm : m = []
  · subst hm; simp [utf8Len]
  · have : utf8Len m ≠ 0 := fun h0 => hm (utf8Len_eq_zero _ h0)
    have h2 : ¬ (utf8Len l ≥ utf8Len l + utf8Len m) := by omega
    rw [if_neg h2]
    have := go₁_of_valid l m r 0 (utf8Len l) (utf8Len l + utf8Len m) (by simp) rfl
    exact congrArg String.ofList this

theorem sep_get (c0 : Char) : Pos.Raw.get (String.ofList [c0]) 0 = c0 :=
  get_of_valid [] [c0]

theorem sep_next (c0 : Char) : Pos.Raw.next (String.ofList [c0]) 0 = ⟨c0.utf8Size⟩ := by
  have := next_of_valid [] c0 []
  simpa [utf8Len] using this

theorem sep_atEnd (c0 : Char) : Pos.Raw.atEnd (String.ofList [c0]) ⟨c0.utf8Size⟩ = true := by
  have := atEnd_of_valid [c0] []
  simpa [utf8Len] using this

/-- `L` is what has been split off, `M` the piece being read, `R` what is left; the separator has one
character, so the position `j` inside it is 0 whenever the loop is re-entered -/
theorem splitOnAux_spec (c0 : Char) (R : List Char) : ∀ (L M : List Char) (r : List String),
    (String.ofList (L ++ M ++ R)).splitOnAux (String.ofList [c0]) ⟨utf8Len L⟩ ⟨utf8Len L + utf8Len M⟩ 0 r =
      r.reverse ++ (List.splitOnPPrepend (· == c0) R M.reverse).map String.ofList := by
  induction R with
  | nil =>
    intro L M r
    rw [String.splitOnAux.eq_1]
    have h1 := atEnd_of_valid (L ++ M) []
    rw [utf8Len_append] at h1
    rw [h1]
    have h2 := extract_of_valid L M []
    simp only [decide_true, if_true, h2, List.splitOnPPrepend_nil, List.reverse_reverse, List.reverse_cons,
      List.map_cons, List.map_nil]
  | cons c R ih =>
    intro L M r
    rw [String.splitOnAux.eq_1]
    have h1 := atEnd_of_valid (L ++ M) (c :: R)
    have h2 := get_of_valid (L ++ M) (c :: R)
    have h3 := next_of_valid (L ++ M) c R
    rw [utf8Len_append] at h1 h2 h3
    simp only [List.append_assoc] at h1 h2 h3 ⊢
    rw [h1]
    simp only [reduceCtorEq, decide_false, Bool.false_eq_true, if_false, h2, List.headD_cons, sep_get]
    by_cases hc : c = c0
    · subst hc
      simp only [beq_self_eq_true, if_true, h3, sep_next, sep_atEnd, Pos.Raw.unoffsetBy, Nat.add_sub_cancel]
      have h4 := extract_of_valid L M (c :: R)
      simp only [List.append_assoc] at h4
      rw [h4]
      have h5 := ih (L ++ M ++ [c]) [] (String.ofList M :: r)
      simp only [utf8Len_append, utf8Len, Nat.add_zero, List.append_assoc, List.append_nil,
        List.cons_append, List.nil_append, ← Nat.add_assoc] at h5
      rw [h5, List.splitOnPPrepend_cons_pos (p := (· == c)) (by simp)]
      simp
    · have hb : (c == c0) = false := by simpa using hc
      simp only [hb, Bool.false_eq_true, if_false, Pos.Raw.unoffsetBy]
      have h6 : ((0 : Pos.Raw).byteIdx) = 0 := rfl
      simp only [h6, Nat.sub_zero, h3]
      have h5 := ih L (M ++ [c]) r
      simp only [utf8Len_append, utf8Len, Nat.add_zero, List.append_assoc, List.cons_append,
        List.nil_append, ← Nat.add_assoc] at h5
      rw [h5, List.splitOnPPrepend_cons_neg (p := (· == c0)) hb]
      simp

theorem splitOn_single (c0 : Char) (cs : List Char) :
    (String.ofList cs).splitOn (String.ofList [c0]) = (cs.splitOn c0).map String.ofList := by
  unfold String.splitOn
  have hne : (String.ofList [c0] == "") = false := by
    rw [beq_eq_false_iff_ne]
    intro h
    have := congrArg String.toList h
    simp at this
  rw [hne]
  have := splitOnAux_spec c0 cs [] [] []
  simpa [utf8Len, List.splitOn_eq_splitOnP] using this

theorem isDigit_range (c : Char) (h : c.isDigit = true) : (decide ('0' ≤ c) && decide (c ≤ '9')) = true := by
  simp only [Char.isDigit, Bool.and_eq_true, decide_eq_true_eq] at h ⊢
  exact ⟨Char.le_def.mpr h.1, Char.le_def.mpr h.2⟩

theorem foldl_digits (ds : List Char) : ∀ init,
    List.foldl (fun acc c => acc * 10 + (c.toNat - '0'.toNat)) init ds = Nat.ofDigitChars 10 ds init := by
  induction ds with
  | nil => intro init; simp
  | cons c ds ih => intro init; rw [List.foldl_cons, ih, Nat.ofDigitChars_cons, Nat.mul_comm]

theorem parseU64_of_digits (s : String) (ds : List Char) (hs : s.toList = ds) (hne : ds ≠ [])
    (hdig : ∀ c ∈ ds, c.isDigit = true) (hv : Nat.ofDigitChars 10 ds 0 < 2 ^ 64) :
    parseU64? s = some (Nat.ofDigitChars 10 ds 0) := by
  unfold parseU64?
  rw [hs]
  have hnp : ∀ rest : List Char, ds = '+' :: rest → False := by
    intro rest heq
    have := hdig '+' (by rw [heq]; exact List.mem_cons_self)
    exact absurd this (by decide)
  -- the matcher's second equation, its side condition discharged by `hnp`
  simp only []
  have h1 : ds.isEmpty = false := by
    cases ds with
    | nil => exact absurd rfl hne
    | cons _ _ => rfl
  have h2 : (ds.all fun c => decide ('0' ≤ c) && decide (c ≤ '9')) = true := by
    rw [List.all_eq_true]
    exact fun c hc => isDigit_range c (hdig c hc)
  rw [h1, h2, foldl_digits]
  simp [hv]

theorem parseU64_toString (n : Nat) (h : n < 2 ^ 64) : parseU64? (toString n) = some n := by
  have := parseU64_of_digits (toString n) (Nat.toDigits 10 n)
    (by rw [Nat.toString_eq_repr, Nat.toList_repr]) Nat.toDigits_ne_nil
    (fun c hc => Nat.isDigit_of_mem_toDigits (by decide) (by decide) hc)
    (by rw [Nat.ofDigitChars_ten_toDigits]; exact h)
  rw [this, Nat.ofDigitChars_ten_toDigits]

theorem hexDigit_hexChar : ∀ k, k < 16 → hexDigitAny? (Wire.hexChar k) = some k := by decide

theorem hexChar_ne_slash : ∀ k, k < 16 → Wire.hexChar k ≠ '/' := by decide

/-- the characters of `hexLower bs`: two per byte, the high half first -/
def hexChars (bs : List UInt8) : List Char :=
  bs.foldr (fun b acc => Wire.hexChar (b.toNat / 16) :: Wire.hexChar (b.toNat % 16) :: acc) []

theorem hexLower_eq (bs : List UInt8) : hexLower bs = String.ofList (hexChars bs) := rfl

theorem hexDecodeGo_hexChars (bs : List UInt8) : ∀ acc, hexDecodeGo (hexChars bs) acc = some (acc.reverse ++ bs) := by
  induction bs with
  | nil => intro acc; simp [hexChars, hexDecodeGo]
  | cons b bs ih =>
    intro acc
    have hb : b.toNat < 256 := b.toNat_lt
    have h1 := hexDigit_hexChar (b.toNat / 16) (by omega)
    have h2 := hexDigit_hexChar (b.toNat % 16) (by omega)
    have h3 : UInt8.ofNat (b.toNat / 16 * 16 + b.toNat % 16) = b := by
      have : b.toNat / 16 * 16 + b.toNat % 16 = b.toNat := by omega
      rw [this]; exact UInt8.ofNat_toNat
    show hexDecodeGo (Wire.hexChar (b.toNat / 16) :: Wire.hexChar (b.toNat % 16) :: hexChars bs) acc = _
    simp only [hexDecodeGo, h1, h2, Option.bind_eq_bind, Option.bind_some, h3]
    rw [ih]
    simp

theorem digest_hexLower (bs : List UInt8) (h : bs.length = 32) : digest? (hexLower bs) = some bs := by
  unfold digest?
  rw [hexLower_eq, String.toList_ofList, hexDecodeGo_hexChars]
  simp [h]

theorem slash_not_mem_hexChars (bs : List UInt8) : '/' ∉ hexChars bs := by
  induction bs with
  | nil => simp [hexChars]
  | cons b bs ih =>
    have hb : b.toNat < 256 := b.toNat_lt
    have h1 := hexChar_ne_slash (b.toNat / 16) (by omega)
    have h2 := hexChar_ne_slash (b.toNat % 16) (by omega)
    show '/' ∉ Wire.hexChar (b.toNat / 16) :: Wire.hexChar (b.toNat % 16) :: hexChars bs
    simp only [List.mem_cons, not_or]
    exact ⟨fun e => h1 e.symm, fun e => h2 e.symm, ih⟩

theorem slash_not_mem_digits (n : Nat) : '/' ∉ Nat.toDigits 10 n := by
  intro h
  have := Nat.isDigit_of_mem_toDigits (b := 10) (by decide) (by decide) h
  exact absurd this (by decide)

theorem render_eq (n : Name) : render n =
    String.ofList (Nat.toDigits 10 n.epoch ++ '/' :: (hexChars n.previous ++ '/' :: hexChars n.current)) := by
  have hs : ("/" : String) = String.ofList ['/'] := rfl
  show toString n.epoch ++ "/" ++ hexLower n.previous ++ "/" ++ hexLower n.current = _
  rw [Nat.toString_eq_ofList_toDigits, hexLower_eq, hexLower_eq, hs]
  simp only [← String.ofList_append]
  simp

theorem parse_render (n : Name) (he : n.epoch < 2 ^ 64) (hp : n.previous.length = 32)
    (hc : n.current.length = 32) : parse? (render n) = some n := by
  have hs : ("/" : String) = String.ofList ['/'] := rfl
  have hsplit : (render n).splitOn "/" = [toString n.epoch, hexLower n.previous, hexLower n.current] := by
    rw [render_eq, hs, splitOn_single, List.splitOn_append_cons_self_of_not_mem (slash_not_mem_digits _),
      List.splitOn_append_cons_self_of_not_mem (slash_not_mem_hexChars _),
      List.splitOn_eq_singleton (slash_not_mem_hexChars _)]
    simp [hexLower_eq, Nat.repr_eq_ofList_toDigits]
  unfold parse?
  rw [hsplit]
  simp only [parseU64_toString n.epoch he, digest_hexLower _ hp, digest_hexLower _ hc]
  rfl

end Akd.Blob
