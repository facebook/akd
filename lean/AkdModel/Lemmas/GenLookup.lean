/-
Proof generation at the directory level: in a state that represents the
specification state, `Dir.lookup` returns the honest lookup proof over the canonical tree, and that
proof verifies to the label's last version.
-/
import AkdModel.Thm.C01c
import AkdModel.Thm.C05
import AkdModel.Lemmas.GenChecks
import AkdModel.Lemmas.GenProof
namespace Akd.Gen
open Akd

theorem markerVersion_bounds (v : Nat) (h : 1 ≤ v) : 1 ≤ Dir.markerVersion v ∧ Dir.markerVersion v ≤ v := by
  unfold Dir.markerVersion
  rw [Nat.shiftLeft_eq, Nat.one_mul]
  exact ⟨Nat.one_le_two_pow, Nat.log2_self_le (by omega)⟩

/-- what `Dir.lookup` returns for the last version `last` of `u`, written with the proofs of the canonical tree -/
def honestLookup (c : Cfg) (key : Dig) (vrf : VrfTable) (t : CRoot) (u : Bytes) (last : Spec.Ver) : LookupProof :=
  ⟨last.epoch, last.value, last.version,
    some ⟨u, true, last.version⟩, t.genMembership c (lab vrf u true last.version).bits,
    some ⟨u, true, Dir.markerVersion last.version⟩,
    t.genMembership c (lab vrf u true (Dir.markerVersion last.version)).bits,
    some ⟨u, false, last.version⟩, t.genNonMembership c (lab vrf u false last.version).bits,
    c.nonce key (lab vrf u true last.version) last.version last.value⟩

theorem honestLookup_verifies (c : Cfg) (hc : c.Lawful) (hfresh : C05.EmptyLabelFresh c)
    (key : Dig) (vrf : VrfTable) (hv : C06.VrfOK vrf)
    (t : CRoot) (hwf : t.WF) (h256 : C05.Leaves256 t)
    (u : Bytes) (vs : List Spec.Ver) (hon : C06.HonestFor c key vrf t u vs)
    (last : Spec.Ver) (hlast : vs.getLast? = some last) (E : Nat) (hE : last.version ≤ E)
    (hst : (vrf.get? ⟨u, false, last.version⟩).isSome) :
    Verify.lookup c vrf (t.rootHash c) E u (honestLookup c key vrf t u last)
      = .ok ⟨last.epoch, last.version, last.value⟩ := by
  have hmem : last ∈ vs := List.mem_of_getLast? hlast
  have hver : last.version = vs.length := Pub.versOK_last hon.versions hlast
  have hne : vs ≠ [] := List.ne_nil_of_mem hmem
  have hpos : 1 ≤ last.version := (hon.versions.version_le hmem).1
  obtain ⟨m1, m2⟩ := markerVersion_bounds last.version hpos
  have h1 := Snd.existenceWithVal_iff.2 (fresh_existence hv hwf hon last hmem)
  have h2 := past_existence hv hwf hon (Dir.markerVersion last.version) m1 (hver ▸ m2)
  have h3 := stale_nonexistence hc hfresh hv hwf h256 hon hne (by rwa [← hver])
  rw [← hver] at h3
  simp only [Verify.lookup, honestLookup, h1, h2, h3, Nat.not_lt.2 hE, Nat.pos_iff_ne_zero.1 hpos, if_false]

theorem refines_tree_facts (c : Cfg) (d : Dir) (sp : Spec.State) (hv : C06.VrfOK d.vrf) (href : C01.Refines c d sp) :
    let t := CRoot.ofLeaves (Spec.leaves c d.commitmentKey d.vrf sp.table)
    t.WF ∧ C05.Leaves256 t ∧ (∀ lf ∈ t.leaves, lf.ep ≤ sp.epoch) := by
  intro t
  obtain ⟨hwf, _, hbd⟩ := Pub.leafTree hv c d.commitmentKey href.tableOK
  exact ⟨hwf, fun lf hlf => (hbd lf hlf).1, fun lf hlf => (hbd lf hlf).2.2⟩

theorem refines_gen (c : Cfg) (d : Dir) (sp : Spec.State) (hv : C06.VrfOK d.vrf) (href : C01.Refines c d sp)
    (n : Nat) (l : NodeLabel) (hl : l.len = 256) :
    let t := CRoot.ofLeaves (Spec.leaves c d.commitmentKey d.vrf sp.table)
    d.nodes.rootHash c ⟨sp.epoch, n⟩ = .ok (t.rootHash c) ∧
    d.nodes.membershipProof c ⟨sp.epoch, n⟩ l = .ok (t.genMembership c l.bits) ∧
    d.nodes.nonMembershipProof c ⟨sp.epoch, n⟩ l = .ok (t.genNonMembership c l.bits) := by
  intro t
  obtain ⟨hwf, h256, hep⟩ := refines_tree_facts c d sp hv href
  have hlen : ∀ lf ∈ t.leaves, lf.lbl.length ≤ 256 := fun lf h => by rw [h256 lf h]; exact Nat.le_refl _
  have hx : l.bits.length ≤ 256 := by rw [Snd.bits_length_256 l hl]; exact Nat.le_refl _
  have hnp : ∀ lf ∈ t.leaves, lf.lbl <+: l.bits → lf.lbl = l.bits := fun lf hlf hp =>
    hp.eq_of_length_le (by rw [h256 lf hlf]; exact hx)
  refine ⟨C01.rootHash_of_reprRoot c .directory d.nodes t sp.epoch n href.tree hep, ?_, ?_⟩
  · have := membershipProof_core c d.nodes ⟨sp.epoch, n⟩ t l.bits hx href.tree hwf hlen hep hnp
    rwa [Snd.ofBits_bits_256 l hl] at this
  · have := nonMembershipProof_core c d.nodes ⟨sp.epoch, n⟩ t l.bits hx href.tree hwf hlen hep hnp
    rwa [Snd.ofBits_bits_256 l hl] at this

theorem lookup_unpublished_core (c : Cfg) (d : Dir) (sp : Spec.State) (href : C01.Refines c d sp) (u : Bytes)
    (hnone : sp.table.get u = []) : d.lookup c u = .error .notFound := by
  obtain ⟨n, hazks⟩ := href.azks
  unfold Dir.lookup
  simp only [throw, throwThe, MonadExceptOf.throw, hazks,
    Pub.stateLeq_none d sp sp.epoch href.states u hnone]

theorem lookup_gen (c : Cfg) (d : Dir) (sp : Spec.State) (users : List Bytes) (N : Nat)
    (hv : C06.VrfOK d.vrf) (ht : C01.VrfTotal d.vrf users N) (hN : sp.epoch + 1 ≤ N)
    (href : C01.Refines c d sp) (u : Bytes) (hmem : u ∈ users) (last : Spec.Ver)
    (hlast : (sp.table.get u).getLast? = some last) :
    last.version ≤ sp.epoch ∧
    d.lookup c u = .ok (honestLookup c d.commitmentKey d.vrf
        (CRoot.ofLeaves (Spec.leaves c d.commitmentKey d.vrf sp.table)) u last,
      sp.epoch, Spec.rootHash c d.commitmentKey d.vrf sp) := by
  obtain ⟨n, hazks⟩ := href.azks
  have hV : Pub.VersOK (sp.table.get u) := (href.versions u).1
  have hEp := (href.versions u).2
  have hlen := Pub.versOK_length_le hV _ hEp
  obtain ⟨hv1, hv2⟩ := C06.VersionsOK.version_le hV (List.mem_of_getLast? hlast)
  obtain ⟨m1, m2⟩ := markerVersion_bounds last.version hv1
  obtain ⟨st, hst, _, hsv, hsval, hsep⟩ := Pub.stateLeq_some d sp sp.epoch href.states u hV
    (fun v hvm => (hEp v hvm).2) last hlast
  have hvE : last.version ≤ sp.epoch := Nat.le_trans hv2 hlen
  have hvN : last.version ≤ N := Nat.le_trans hvE (Nat.le_of_succ_le hN)
  obtain ⟨le, hle⟩ := Option.isSome_iff_exists.1 (ht u hmem true last.version hv1 hvN)
  obtain ⟨lm, hlm⟩ := Option.isSome_iff_exists.1 (ht u hmem true (Dir.markerVersion last.version) m1 (Nat.le_trans m2 hvN))
  obtain ⟨ln, hln⟩ := Option.isSome_iff_exists.1 (ht u hmem false last.version hv1 hvN)
  obtain ⟨g1, g2, _⟩ := refines_gen c d sp hv href n le (hv.len _ _ hle)
  obtain ⟨_, g3, _⟩ := refines_gen c d sp hv href n lm (hv.len _ _ hlm)
  obtain ⟨_, _, g4⟩ := refines_gen c d sp hv href n ln (hv.len _ _ hln)
  refine ⟨hvE, ?_⟩
  unfold Dir.lookup honestLookup
  simp only [bind, Except.bind, pure, Except.pure, hazks, hst, Dir.vrfLabel, hsv, hle, hlm, hln, g1, g2, g3, g4,
    Dir.liftT, hsval, hsep, lab_eq hle, lab_eq hlm, lab_eq hln]
  rfl

end Akd.Gen
