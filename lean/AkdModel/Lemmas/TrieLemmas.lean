/-
The honest walk on the canonical trie (`CTree.path`, `CRoot.path`) against the leaf-level
verifiers: the proof it collects folds up to the root value, and a proof whose fold reaches the
root value speaks about a node of the trie.  Pure bit-string / digest level: no fact about the
byte-level label operations (C17) is used.
-/
import AkdModel.Lemmas.CanonLemmas
namespace Akd
open Canon

theorem foldUp_nil (c : Cfg) (l : NodeLabel) (v : Dig) : foldUp c ⟨l, v, []⟩ = (v, l) := rfl

theorem foldUp_cons (c : Cfg) (l : NodeLabel) (v : Dig) (s : SiblingProof) (rest : List SiblingProof) :
    foldUp c ⟨l, v, s :: rest⟩ = foldStep c (foldUp c ⟨l, v, rest⟩) s := by
  simp [foldUp, List.foldl_append]

theorem foldStep_fst (c : Cfg) (st : Dig × NodeLabel) (sp : SiblingProof) :
    ∃ lv ll rv rl, (foldStep c st sp).1 = c.parentHash lv ll rv rl ∧ (st = (lv, ll) ∨ st = (rv, rl)) := by
  unfold foldStep
  split
  · exact ⟨_, _, _, _, rfl, .inl rfl⟩
  · exact ⟨_, _, _, _, rfl, .inr rfl⟩

theorem foldStep_fst_eq_parent {c : Cfg} (hc : c.Lawful) {st : Dig × NodeLabel} {sp : SiblingProof}
    {lv rv : Dig} {ll rl : NodeLabel} (h : (foldStep c st sp).1 = c.parentHash lv ll rv rl) :
    st = (lv, ll) ∨ st = (rv, rl) := by
  obtain ⟨_, _, _, _, e, hst⟩ := foldStep_fst c st sp
  obtain ⟨rfl, rfl, rfl, rfl⟩ := hc.parent_inj _ _ _ _ _ _ _ _ (e.symm.trans h)
  exact hst

theorem BitStr.isPrefix_iff (a b : BitStr) : BitStr.isPrefix a b = true ↔ a <+: b := by
  simp only [BitStr.isPrefix, Bool.and_eq_true, decide_eq_true_eq, beq_iff_eq]
  constructor
  · rintro ⟨_, h⟩
    exact h ▸ List.take_prefix _ _
  · intro h
    exact ⟨h.length_le, List.prefix_iff_eq_take.mp h |>.symm⟩

/-- the direction a sibling proof records for a step to the child on the side of bit `b` -/
def Direction.ofBit : Bool → Direction
  | false => .left
  | true => .right

namespace CTree

def child (l r : CTree) : Bool → CTree
  | false => l
  | true => r

theorem child_induction {motive : CTree → Prop} (leaf : ∀ q v e, motive (leaf q v e))
    (node : ∀ q l r, (∀ b, motive (child l r b)) → motive (node q l r)) (a : CTree) : motive a := by
  induction a with
  | leaf q v e => exact leaf q v e
  | node q l r ihl ihr => exact node q l r (fun b => by cases b <;> assumption)

theorem WF.node_child {q : BitStr} {l r : CTree} (hwf : (node q l r).WF) (b : Bool) :
    q ++ [b] <+: (child l r b).lbl ∧ (child l r b).WF := by
  cases b
  · exact ⟨hwf.1, hwf.2.2.1⟩
  · exact ⟨hwf.2.1, hwf.2.2.2⟩

theorem mem_leaves_node {q : BitStr} {l r : CTree} {lf : Leaf} :
    lf ∈ (node q l r).leaves ↔ ∃ b, lf ∈ (child l r b).leaves := by
  simp [leaves, child]

theorem foldStep_child (c : Cfg) (q : BitStr) (l r : CTree) (b : Bool) :
    foldStep c ((child l r b).azks c .withLeafEpoch, NodeLabel.ofBits (child l r b).lbl)
        ⟨NodeLabel.ofBits q, (child l r !b).element c, .ofBit b⟩
      = ((node q l r).azks c .withLeafEpoch, NodeLabel.ofBits q) := by
  cases b <;> rfl

inductive Sub (s : CTree) : CTree → Prop
  | refl : Sub s s
  | left (q : BitStr) {l : CTree} (r : CTree) : Sub s l → Sub s (node q l r)
  | right (q : BitStr) (l : CTree) {r : CTree} : Sub s r → Sub s (node q l r)

theorem Sub.child {s : CTree} (q : BitStr) (l r : CTree) (b : Bool) (h : Sub s (child l r b)) :
    Sub s (node q l r) := by
  cases b
  · exact .left q r h
  · exact .right q l h

theorem WF.sub {s a : CTree} (h : Sub s a) (hwf : a.WF) : s.WF := by
  induction h with
  | refl => exact hwf
  | left q r _ ih => exact ih hwf.2.2.1
  | right q l _ ih => exact ih hwf.2.2.2

theorem WF.sub_prefix {s a : CTree} (h : Sub s a) (hwf : a.WF) : a.lbl <+: s.lbl := by
  induction h with
  | refl => exact List.prefix_refl _
  | left q r _ ih => exact (prefix_of_snoc_prefix hwf.1).trans (ih hwf.2.2.1)
  | right q l _ ih => exact (prefix_of_snoc_prefix hwf.2.1).trans (ih hwf.2.2.2)

theorem Sub.leaves_subset {s a : CTree} (h : Sub s a) {lf : Leaf} (hl : lf ∈ s.leaves) : lf ∈ a.leaves := by
  induction h with
  | refl => exact hl
  | left q r _ ih => exact List.mem_append_left _ ih
  | right q l _ ih => exact List.mem_append_right _ ih

theorem WF.sub_leaves {s a : CTree} (h : Sub s a) (hwf : a.WF) {lf : Leaf} (hl : lf ∈ a.leaves)
    (hp : s.lbl <+: lf.lbl) : lf ∈ s.leaves := by
  induction h with
  | refl => exact hl
  | @left q l r hs ih =>
    rcases List.mem_append.1 hl with hl | hl
    · exact ih hwf.2.2.1 hl
    · cases snoc_prefix_inj ((hwf.1.trans (WF.sub_prefix hs hwf.2.2.1)).trans hp)
        (hwf.2.1.trans (Tree.lbl_prefix hwf.2.2.2 lf hl))
  | @right q l r hs ih =>
    rcases List.mem_append.1 hl with hl | hl
    · cases snoc_prefix_inj (hwf.1.trans (Tree.lbl_prefix hwf.2.2.1 lf hl))
        ((hwf.2.1.trans (WF.sub_prefix hs hwf.2.2.2)).trans hp)
    · exact ih hwf.2.2.2 hl

theorem WF.node_length_lt {q : BitStr} {l r : CTree} (hwf : (node q l r).WF)
    (h256 : ∀ lf ∈ (node q l r).leaves, lf.lbl.length = 256) : q.length < 256 := by
  have hl : l.lbl.length ≤ 256 :=
    Tree.lbl_length_le hwf.2.2.1 (fun lf h => Nat.le_of_eq (h256 lf (List.mem_append_left _ h)))
  have := hwf.1.length_le
  simp at this
  omega

theorem path_node (c : Cfg) (x q : BitStr) (l r : CTree) :
    (node q l r).path c x =
      match x[q.length]? with
      | none => (node q l r, [])
      | some b =>
        if (child l r b).lbl <+: x then
          (((child l r b).path c x).1,
            ⟨NodeLabel.ofBits q, (child l r !b).element c, .ofBit b⟩ :: ((child l r b).path c x).2)
        else (node q l r, []) := by
  rw [path]
  simp only [← BitStr.isPrefix_iff]
  cases x[q.length]? with
  | none => rfl
  | some b => cases b <;> rfl

theorem WF.path_node_of_prefix {q : BitStr} {l r : CTree} (hwf : (node q l r).WF) (c : Cfg) {x : BitStr}
    {b : Bool} (hp : (child l r b).lbl <+: x) :
    (node q l r).path c x =
      (((child l r b).path c x).1,
        ⟨NodeLabel.ofBits q, (child l r !b).element c, .ofBit b⟩ :: ((child l r b).path c x).2) := by
  simp only [path_node, getElem?_of_snoc_prefix ((hwf.node_child b).1.trans hp), if_pos hp]

theorem path_node_of_not_prefix (c : Cfg) (q : BitStr) (l r : CTree) {x : BitStr}
    (h : ∀ b, ¬ (child l r b).lbl <+: x) : (node q l r).path c x = (node q l r, []) := by
  rw [path_node]
  split
  · rfl
  · exact if_neg (h _)

theorem foldUp_path (c : Cfg) (x : BitStr) (a : CTree) :
    foldUp c ⟨NodeLabel.ofBits (a.path c x).1.lbl, (a.path c x).1.azks c .withLeafEpoch, (a.path c x).2⟩
      = (a.azks c .withLeafEpoch, NodeLabel.ofBits a.lbl) := by
  induction a using child_induction with
  | leaf q v e => rfl
  | node q l r ih =>
    rw [path_node]
    split
    · rfl
    · split
      · rw [foldUp_cons, ih, foldStep_child]
        rfl
      · rfl

theorem path_sub (c : Cfg) (x : BitStr) (a : CTree) : Sub (a.path c x).1 a := by
  induction a using child_induction with
  | leaf q v e => exact .refl
  | node q l r ih =>
    rw [path_node]
    split
    · exact .refl
    · split
      · exact .child q l r _ (ih _)
      · exact .refl

theorem WF.path_end {a : CTree} (hwf : a.WF) (c : Cfg) {x : BitStr} (h : a.lbl <+: x) :
    (a.path c x).1.lbl <+: x ∧
      ∀ q l r, (a.path c x).1 = node q l r → ∀ b, ¬ (child l r b).lbl <+: x := by
  induction a using child_induction with
  | leaf q v e => exact ⟨h, nofun⟩
  | node q l r ih =>
    by_cases hex : ∃ b, (child l r b).lbl <+: x
    · obtain ⟨b, hp⟩ := hex
      rw [hwf.path_node_of_prefix c hp]
      exact ih b (hwf.node_child b).2 hp
    · rw [path_node_of_not_prefix c q l r (not_exists.1 hex)]
      refine ⟨h, fun _ _ _ e => ?_⟩
      cases e
      exact not_exists.1 hex

theorem path_leaf (c : Cfg) {a : CTree} (hwf : a.WF) {lf : Leaf} (h : lf ∈ a.leaves) :
    (a.path c lf.lbl).1 = leaf lf.lbl lf.value lf.ep := by
  induction a using child_induction with
  | leaf q v e =>
    cases List.mem_singleton.1 h
    rfl
  | node q l r ih =>
    obtain ⟨b, hb⟩ := mem_leaves_node.1 h
    rw [hwf.path_node_of_prefix c (Tree.lbl_prefix (hwf.node_child b).2 lf hb)]
    exact ih b (hwf.node_child b).2 hb

theorem sound_sub (c : Cfg) (hc : c.Lawful) (lbl : NodeLabel) (v : Dig) (sps : List SiblingProof) :
    ∀ a : CTree, foldUp c ⟨lbl, v, sps⟩ = (a.azks c .withLeafEpoch, NodeLabel.ofBits a.lbl) →
      ∃ s, Sub s a ∧ lbl = NodeLabel.ofBits s.lbl ∧ v = s.azks c .withLeafEpoch := by
  induction sps with
  | nil =>
    intro a h
    injection h with h1 h2
    exact ⟨a, .refl, h2, h1⟩
  | cons sp rest ih =>
    intro a h
    rw [foldUp_cons] at h
    have h1 := congrArg Prod.fst h
    cases a with
    | leaf q w e =>
      obtain ⟨_, _, _, _, e', -⟩ := foldStep_fst c (foldUp c ⟨lbl, v, rest⟩) sp
      exact absurd (e'.symm.trans h1).symm (hc.leaf_ne_parent _ _ _ _ _ _)
    | node q l r =>
      obtain ⟨b, e⟩ : ∃ b, foldUp c ⟨lbl, v, rest⟩ =
          ((child l r b).azks c .withLeafEpoch, NodeLabel.ofBits (child l r b).lbl) :=
        (foldStep_fst_eq_parent hc h1).elim (⟨false, ·⟩) (⟨true, ·⟩)
      obtain ⟨s, hs, hl, hv⟩ := ih _ e
      exact ⟨s, .child q l r b hs, hl, hv⟩

end CTree

namespace CRoot

theorem value_eq_parent (c : Cfg) (m : HashMode) (t : CRoot) (h : t.l ≠ none ∨ t.r ≠ none) :
    t.value c m = c.parentHash (childValue c m t.l) (childLabel c t.l) (childValue c m t.r) (childLabel c t.r) := by
  obtain ⟨tl, tr⟩ := t
  cases tl <;> cases tr <;> simp_all [value]

theorem value_empty (c : Cfg) (m : HashMode) (t : CRoot) (h : t.l = none ∧ t.r = none) :
    t.value c m = c.emptyRootValue := by
  obtain ⟨tl, tr⟩ := t
  obtain ⟨rfl, rfl⟩ := h
  rfl

theorem not_empty_cases (t : CRoot) : (t.l = none ∧ t.r = none) ∨ (t.l ≠ none ∨ t.r ≠ none) :=
  (Decidable.em _).imp_right Decidable.not_and_iff_not_or_not.1

/-- the child slot on the side of bit `b`, the other slot, and the direction recorded -/
def side (t : CRoot) (b : Bool) : Option CTree × Option CTree × Direction :=
  if b then (t.r, t.l, Direction.right) else (t.l, t.r, Direction.left)

theorem side_other (t : CRoot) (b : Bool) : (t.side b).2.1 = (t.side (!b)).1 := by
  cases b <;> rfl

theorem path_nil (c : Cfg) (t : CRoot) : t.path c [] = (none, []) := rfl

theorem path_cons_none (c : Cfg) (t : CRoot) (b : Bool) (x : BitStr) (h : (t.side b).1 = none) :
    t.path c (b :: x) = (none, []) := by
  simp only [side] at h
  simp only [path, h]

theorem path_cons_some (c : Cfg) (t : CRoot) (b : Bool) (x : BitStr) (a : CTree) (h : (t.side b).1 = some a) :
    t.path c (b :: x) =
      if BitStr.isPrefix a.lbl (b :: x) then
        (some (a.path c (b :: x)).1,
          ⟨NodeLabel.root, element c (t.side b).2.1, (t.side b).2.2⟩ :: (a.path c (b :: x)).2)
      else (none, []) := by
  simp only [side] at h
  simp only [path, h, side]

theorem lcpProof_none (c : Cfg) (t : CRoot) (x : BitStr) (h : (t.path c x).1 = none) :
    t.lcpProof c x = ⟨NodeLabel.root, t.value c .withLeafEpoch, (t.path c x).2⟩ := by
  unfold lcpProof
  split <;> simp_all

theorem lcpProof_some (c : Cfg) (t : CRoot) (x : BitStr) {d : CTree} (h : (t.path c x).1 = some d) :
    t.lcpProof c x = ⟨NodeLabel.ofBits d.lbl, d.azks c .withLeafEpoch, (t.path c x).2⟩ := by
  unfold lcpProof
  split <;> simp_all

theorem foldStep_side (c : Cfg) (t : CRoot) (b : Bool) (a : CTree) (h : (t.side b).1 = some a) :
    foldStep c (a.azks c .withLeafEpoch, NodeLabel.ofBits a.lbl)
        ⟨NodeLabel.root, element c (t.side b).2.1, (t.side b).2.2⟩
      = (t.value c .withLeafEpoch, NodeLabel.root) := by
  obtain ⟨tl, tr⟩ := t
  cases b <;> simp only [side, Bool.false_eq_true, if_false, if_true] at h ⊢ <;> subst h
  · cases tr <;> rfl
  · cases tl <;> rfl

theorem foldUp_lcpProof (c : Cfg) (t : CRoot) (x : BitStr) :
    foldUp c (t.lcpProof c x) = (t.value c .withLeafEpoch, NodeLabel.root) := by
  cases x with
  | nil => rfl
  | cons b x =>
    cases hs : (t.side b).1 with
    | none => simp only [lcpProof, path_cons_none c t b x hs]; rfl
    | some a =>
      by_cases hp : BitStr.isPrefix a.lbl (b :: x) = true
      · simp only [lcpProof, path_cons_some c t b x a hs, hp, if_true, foldUp_cons,
          CTree.foldUp_path, foldStep_side c t b a hs]
      · simp only [lcpProof, path_cons_some c t b x a hs, hp]; rfl

def Child (t : CRoot) (a : CTree) : Prop := t.l = some a ∨ t.r = some a

theorem child_iff_side {t : CRoot} {a : CTree} : t.Child a ↔ ∃ b, (t.side b).1 = some a := by
  simp [Child, side]

theorem mem_leaves {t : CRoot} {lf : Leaf} : lf ∈ t.leaves ↔ ∃ a, t.Child a ∧ lf ∈ a.leaves := by
  obtain ⟨tl, tr⟩ := t
  cases tl <;> cases tr <;> simp [leaves, Child]

theorem WF.side {t : CRoot} (hwf : t.WF) {b : Bool} {a : CTree} (h : (t.side b).1 = some a) :
    [b] <+: a.lbl ∧ a.WF := by
  cases b
  · exact hwf.1 a h
  · exact hwf.2 a h

theorem WF.child {t : CRoot} (hwf : t.WF) {a : CTree} (h : t.Child a) : a.WF := by
  obtain ⟨b, hb⟩ := child_iff_side.mp h
  exact (hwf.side hb).2

theorem WF.side_of_prefix {t : CRoot} (hwf : t.WF) {a : CTree} (h : t.Child a) {x : BitStr}
    (hp : a.lbl <+: x) : ∃ b x', x = b :: x' ∧ (t.side b).1 = some a := by
  obtain ⟨b, hb⟩ := child_iff_side.mp h
  obtain ⟨x', rfl⟩ := (hwf.side hb).1.trans hp
  exact ⟨b, x', rfl, hb⟩

theorem WF.child_unique {t : CRoot} (hwf : t.WF) {a a' : CTree} (h : t.Child a) (h' : t.Child a')
    {x : BitStr} (hp : a.lbl <+: x) (hp' : a'.lbl <+: x) : a = a' := by
  obtain ⟨b, x', rfl, hs⟩ := hwf.side_of_prefix h hp
  obtain ⟨_, _, e, hs'⟩ := hwf.side_of_prefix h' hp'
  cases e
  exact Option.some.inj (hs.symm.trans hs')

theorem path_fst (c : Cfg) (t : CRoot) (hwf : t.WF) (x : BitStr) :
    ((t.path c x).1 = none ∧ ∀ a, t.Child a → ¬ a.lbl <+: x) ∨
    (∃ a, t.Child a ∧ a.lbl <+: x ∧ (t.path c x).1 = some (a.path c x).1) := by
  by_cases h : ∃ a, t.Child a ∧ a.lbl <+: x
  · obtain ⟨a, ha, hp⟩ := h
    obtain ⟨b, x', rfl, hs⟩ := hwf.side_of_prefix ha hp
    exact .inr ⟨a, ha, hp, by rw [path_cons_some c t b x' a hs, if_pos ((BitStr.isPrefix_iff _ _).2 hp)]⟩
  · refine .inl ⟨?_, fun a ha hp => h ⟨a, ha, hp⟩⟩
    cases x with
    | nil => rfl
    | cons b x =>
      cases hs : (t.side b).1 with
      | none => rw [path_cons_none c t b x hs]
      | some a =>
        rw [path_cons_some c t b x a hs, if_neg]
        exact fun hp => h ⟨a, child_iff_side.2 ⟨b, hs⟩, (BitStr.isPrefix_iff _ _).1 hp⟩

theorem sound_slot (c : Cfg) (hc : c.Lawful) (o : Option CTree) (lbl : NodeLabel) (v : Dig)
    (sps : List SiblingProof)
    (h : foldUp c ⟨lbl, v, sps⟩ = (childValue c .withLeafEpoch o, childLabel c o)) :
    (o = none ∧ lbl = c.emptyLabel ∧ v = c.emptyNodeHash) ∨
    (∃ a s, o = some a ∧ CTree.Sub s a ∧ lbl = NodeLabel.ofBits s.lbl ∧ v = s.azks c .withLeafEpoch) := by
  cases o with
  | some a =>
    obtain ⟨s, hs, hl, hv⟩ := CTree.sound_sub c hc lbl v sps a h
    exact .inr ⟨a, s, rfl, hs, hl, hv⟩
  | none =>
    cases sps with
    | nil =>
      injection h with h1 h2
      exact .inl ⟨rfl, h2, h1⟩
    | cons sp rest =>
      rw [foldUp_cons] at h
      obtain ⟨_, _, _, _, e', -⟩ := foldStep_fst c (foldUp c ⟨lbl, v, rest⟩) sp
      exact absurd (e'.symm.trans (congrArg Prod.fst h)) (hc.parent_ne_emptyNode _ _ _ _)

theorem sound_cases (c : Cfg) (hc : c.Lawful) (t : CRoot) (π : MembershipProof)
    (h : (foldUp c π).1 = t.value c .withLeafEpoch) :
    (π.siblingProofs = [] ∧ π.hashVal = t.value c .withLeafEpoch) ∨
    (∃ o, (o = t.l ∨ o = t.r) ∧
      ((o = none ∧ π.label = c.emptyLabel ∧ π.hashVal = c.emptyNodeHash) ∨
       (∃ a s, o = some a ∧ CTree.Sub s a ∧ π.label = NodeLabel.ofBits s.lbl ∧
          π.hashVal = s.azks c .withLeafEpoch))) := by
  obtain ⟨lbl, v, sps⟩ := π
  cases sps with
  | nil => exact .inl ⟨rfl, h⟩
  | cons sp rest =>
    right
    rw [foldUp_cons] at h
    rcases not_empty_cases t with he | he
    · rw [value_empty c _ t he] at h
      obtain ⟨_, _, _, _, e', -⟩ := foldStep_fst c (foldUp c ⟨lbl, v, rest⟩) sp
      exact absurd (e'.symm.trans h) (hc.parent_ne_emptyRoot _ _ _ _)
    · rw [value_eq_parent c _ t he] at h
      rcases foldStep_fst_eq_parent hc h with e | e
      · exact ⟨t.l, .inl rfl, sound_slot c hc t.l lbl v rest e⟩
      · exact ⟨t.r, .inr rfl, sound_slot c hc t.r lbl v rest e⟩

theorem verifyMembership_lcpProof (c : Cfg) (t : CRoot) (x : BitStr) :
    verifyMembership c (t.rootHash c) (t.lcpProof c x) = true := by
  simp [verifyMembership, foldUp_lcpProof, rootHash]

theorem verifyMembership_cases (c : Cfg) (hc : c.Lawful) (t : CRoot) (π : MembershipProof)
    (h : verifyMembership c (t.rootHash c) π = true) :
    (π.label = NodeLabel.root ∧ π.hashVal = t.value c .withLeafEpoch) ∨
      (∃ o, (o = t.l ∨ o = t.r) ∧
        ((o = none ∧ π.label = c.emptyLabel ∧ π.hashVal = c.emptyNodeHash) ∨
         (∃ a s, o = some a ∧ CTree.Sub s a ∧ π.label = NodeLabel.ofBits s.lbl ∧
            π.hashVal = s.azks c .withLeafEpoch))) := by
  simp only [verifyMembership, rootHash, Bool.and_eq_true, beq_iff_eq] at h
  refine (sound_cases c hc t π (hc.root_inj _ _ h.1)).imp_left fun ⟨hn, hv⟩ => ⟨?_, hv⟩
  obtain ⟨lbl, v, sps⟩ := π
  cases hn
  exact h.2

end CRoot

/-- the label `verify_nonmembership` recomputes for the anchor from the two children -/
def lcpChildren (c : Cfg) (p : NonMembershipProof) : NodeLabel :=
  if NodeLabel.lcp c.emptyLabel p.child0.label p.child1.label = c.emptyLabel then NodeLabel.root
  else NodeLabel.lcp c.emptyLabel p.child0.label p.child1.label

theorem nonMembershipShape_iff (c : Cfg) (p : NonMembershipProof) :
    nonMembershipShape c p = true ↔
      p.label ≠ p.child0.label ∧ p.label ≠ p.child1.label ∧
      p.longestPrefix.isPrefixOf p.label = true ∧
      p.longestPrefix = lcpChildren c p ∧
      lcpChildren c p = p.longestPrefixMembershipProof.label ∧
      c.parentHash p.child0.value p.child0.label p.child1.value p.child1.label
        = p.longestPrefixMembershipProof.hashVal := by
  unfold nonMembershipShape lcpChildren
  by_cases h1 : p.label = p.child0.label
  · simp [h1]
  by_cases h2 : p.label = p.child1.label
  · simp [h2]
  by_cases h3 : p.longestPrefix.isPrefixOf p.label = true
  · simp [h1, h2, h3]
  · simp [h1, h2, h3]

theorem childrenNotPrefix_iff (c : Cfg) (p : NonMembershipProof) :
    childrenNotPrefix c p = true ↔
      (p.child0.label ≠ c.emptyLabel → p.child0.label.isPrefixOf p.label ≠ true) ∧
      (p.child1.label ≠ c.emptyLabel → p.child1.label.isPrefixOf p.label ≠ true) := by
  simp [childrenNotPrefix, Decidable.or_iff_not_imp_left]

namespace CRoot

theorem genNonMembership_mp (c : Cfg) (t : CRoot) (x : BitStr) :
    (t.genNonMembership c x).longestPrefixMembershipProof = t.lcpProof c x := by
  unfold genNonMembership
  split
  rfl

theorem genNonMembership_none (c : Cfg) (t : CRoot) (x : BitStr) (h : (t.path c x).1 = none) :
    t.genNonMembership c x =
      ⟨NodeLabel.ofBits x, NodeLabel.root, element c t.l, element c t.r,
        ⟨NodeLabel.root, t.value c .withLeafEpoch, (t.path c x).2⟩⟩ := by
  simp only [genNonMembership, lcpProof_none c t x h, h]

theorem genNonMembership_node (c : Cfg) (t : CRoot) (x : BitStr) {q : BitStr} {l r : CTree}
    (h : (t.path c x).1 = some (.node q l r)) :
    t.genNonMembership c x =
      ⟨NodeLabel.ofBits x, NodeLabel.ofBits q, l.element c, r.element c,
        ⟨NodeLabel.ofBits q, (CTree.node q l r).azks c .withLeafEpoch, (t.path c x).2⟩⟩ := by
  simp only [genNonMembership, lcpProof_some c t x h, h, CTree.lbl]

end CRoot

/-! ### well-formedness is decidable (used for the concrete witnesses) -/

instance CTree.decWF : (a : CTree) → Decidable a.WF
  | .leaf _ _ _ => isTrue trivial
  | .node q l r =>
    have := CTree.decWF l
    have := CTree.decWF r
    inferInstanceAs (Decidable ((q ++ [false]) <+: l.lbl ∧ (q ++ [true]) <+: r.lbl ∧ l.WF ∧ r.WF))

instance CRoot.decWF (t : CRoot) : Decidable t.WF :=
  inferInstanceAs (Decidable ((∀ a ∈ t.l, [false] <+: a.lbl ∧ a.WF) ∧ (∀ b ∈ t.r, [true] <+: b.lbl ∧ b.WF)))

end Akd
