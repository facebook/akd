/-
Store side of the publish theorem (C01c): `begin` / `commit` around `batchInsert`.
Everything the tree code does to the store is a sequence of `setRec`; while a transaction is
active these writes keep the log keyed by the records' own labels, one binding per key, so that
`commit` (which replays the log into the database) preserves every read.
-/
import AkdModel.Thm.C01b
import AkdModel.Lemmas.InsertInv
namespace Akd.Pub
open Akd NodeStore

theorem repr_getRec_congr (c : Cfg) (m : InsertMode) (s s' : NodeStore)
    (h : ∀ k, s'.getRec k = s.getRec k) : ∀ t : CTree, C01.Repr c m s t → C01.Repr c m s' t
  | .leaf _ _ _, hr => by
    simp only [C01.Repr] at hr ⊢
    rw [h]; exact hr
  | .node _ l r, hr => by
    simp only [C01.Repr] at hr ⊢
    rw [h]
    exact ⟨hr.1, repr_getRec_congr c m s s' h l hr.2.1, repr_getRec_congr c m s s' h r hr.2.2⟩

theorem reprRoot_getRec_congr (c : Cfg) (m : InsertMode) (s s' : NodeStore)
    (h : ∀ k, s'.getRec k = s.getRec k) (t : CRoot) (hr : C01.ReprRoot c m s t) : C01.ReprRoot c m s' t := by
  obtain ⟨h1, h2, h3⟩ := hr
  refine ⟨?_, fun a ha => repr_getRec_congr c m s s' h a (h2 a ha),
    fun a ha => repr_getRec_congr c m s s' h a (h3 a ha)⟩
  rw [h]; exact h1

theorem getRec_begin (s : NodeStore) (h1 : s.inTxn = false) (h2 : s.log = []) (k : NodeLabel) :
    s.begin.getRec k = s.getRec k := by
  simp [NodeStore.begin, NodeStore.getRec, h1, h2, NodeMap.get?]

/-- a transaction is active; the log is keyed by the records' labels, one binding per key -/
def LogOK (s : NodeStore) : Prop :=
  s.inTxn = true ∧ (∀ kr ∈ s.log, kr.1 = kr.2.label) ∧ s.log.Pairwise (fun a b => a.1 ≠ b.1)

theorem logOK_begin (s : NodeStore) (h2 : s.log = []) : LogOK s.begin := by
  simp [LogOK, NodeStore.begin, h2]

theorem mem_set (m : NodeMap) (r : NodeRec) : ∀ kr ∈ NodeMap.set m r, kr ∈ m ∨ kr = (r.label, r) := by
  induction m with
  | nil => intro kr h; simp [NodeMap.set] at h; exact .inr h
  | cons x rest ih =>
    obtain ⟨k', r'⟩ := x
    intro kr h
    simp only [NodeMap.set] at h
    split at h
    · rename_i hk
      rcases List.mem_cons.1 h with h | h
      · right; rw [h, hk]
      · left; exact List.mem_cons_of_mem _ h
    · rcases List.mem_cons.1 h with h | h
      · left; rw [h]; exact List.mem_cons_self
      · rcases ih kr h with h | h
        · left; exact List.mem_cons_of_mem _ h
        · right; exact h

theorem pairwise_set (m : NodeMap) (r : NodeRec) (hp : m.Pairwise (fun a b => a.1 ≠ b.1)) :
    (NodeMap.set m r).Pairwise (fun a b => a.1 ≠ b.1) := by
  induction m with
  | nil => simp [NodeMap.set]
  | cons x rest ih =>
    obtain ⟨k', r'⟩ := x
    rw [List.pairwise_cons] at hp
    simp only [NodeMap.set]
    split
    · rw [List.pairwise_cons]
      exact ⟨fun a ha => hp.1 a ha, hp.2⟩
    · rename_i hk
      rw [List.pairwise_cons]
      refine ⟨fun a ha => ?_, ih hp.2⟩
      rcases mem_set rest r a ha with h | h
      · exact hp.1 a h
      · rw [h]; exact hk

theorem logOK_setRec (s : NodeStore) (r : NodeRec) (h : LogOK s) : LogOK (s.setRec r) := by
  obtain ⟨h1, h2, h3⟩ := h
  unfold NodeStore.setRec
  rw [if_pos h1]
  refine ⟨h1, fun kr hkr => ?_, pairwise_set _ _ h3⟩
  rcases mem_set _ _ kr hkr with h | h
  · exact h2 kr h
  · rw [h]

theorem inv_batchInsert (P : NodeStore → Prop) (hP : ∀ s r, P s → P (s.setRec r))
    {c : Cfg} {mode : InsertMode} {s s' : NodeStore} {a a' : Azks} {nodes : List (NodeLabel × Dig)}
    (h : s.batchInsert c mode a nodes = .ok (s', a')) (hs : P s) : P s' :=
  Ins.abs_batchInsert c P (fun _ => True) (fun _ _ _ _ _ => trivial)
    (fun s n b s' hs _ hw => by
      obtain ⟨p, hp⟩ := s.writeNode_ok n b
      rw [hp] at hw
      cases hw
      exact hP _ _ hs)
    (fun _ _ _ _ _ _ _ => ⟨trivial, trivial⟩) (fun _ _ => trivial) (fun _ => trivial) (fun _ _ _ => trivial) h hs

theorem logOK_batchInsert {c : Cfg} {mode : InsertMode} {s s' : NodeStore} {a a' : Azks}
    {nodes : List (NodeLabel × Dig)}
    (h : s.batchInsert c mode a nodes = .ok (s', a')) (hs : LogOK s) : LogOK s' :=
  inv_batchInsert LogOK logOK_setRec h hs

theorem get_foldl_set : ∀ (log db : NodeMap) (k : NodeLabel),
    (∀ kr ∈ log, kr.1 = kr.2.label) → log.Pairwise (fun a b => a.1 ≠ b.1) →
    NodeMap.get? (log.foldl (fun d (kr : NodeLabel × NodeRec) => NodeMap.set d kr.2) db) k =
      match NodeMap.get? log k with
      | some r => some r
      | none => NodeMap.get? db k
  | [], db, k, _, _ => by simp [NodeMap.get?]
  | (k', r') :: rest, db, k, hk, hp => by
    -- the head `(k', r')` is written to the database first; the keys of the rest differ from `k'`, so a read of
    -- `k'` passes the rest of the log and finds `r'`, and a read of another key does not see that write
    rw [List.pairwise_cons] at hp
    have hk' : k' = r'.label := hk (k', r') List.mem_cons_self
    rw [List.foldl_cons, get_foldl_set rest _ k (fun kr h => hk kr (List.mem_cons_of_mem _ h)) hp.2]
    simp only [NodeMap.get?]
    by_cases h : k' = k
    · have hnone : NodeMap.get? rest k = none := by
        have : ∀ (m : NodeMap), (∀ a ∈ m, k ≠ a.1) → NodeMap.get? m k = none := by
          intro m
          induction m with
          | nil => intro _; rfl
          | cons x xs ih =>
            intro hm
            obtain ⟨a, b⟩ := x
            simp only [NodeMap.get?]
            rw [if_neg (fun e => hm (a, b) List.mem_cons_self e.symm)]
            exact ih (fun y hy => hm y (List.mem_cons_of_mem _ hy))
        exact this rest (fun a ha => h ▸ hp.1 a ha)
      rw [hnone, if_pos h, NodeMap.get?_set, if_pos (h ▸ hk')]
    · rw [if_neg h]
      cases NodeMap.get? rest k with
      | some r => rfl
      | none =>
        simp only
        rw [NodeMap.get?_set, if_neg (fun e => h (hk'.trans e.symm))]

theorem getRec_commit (s : NodeStore) (h : LogOK s) (k : NodeLabel) : s.commit.getRec k = s.getRec k := by
  obtain ⟨h1, h2, h3⟩ := h
  simp only [NodeStore.commit, NodeStore.getRec, h1, if_true, Bool.false_eq_true, if_false]
  rw [get_foldl_set s.log s.db k h2 h3]
  cases NodeMap.get? s.log k <;> rfl

/-- a publish on an idle store, `begin; batchInsert; commit`: `C01.batchInsert_refines` carried through the
transaction -/
theorem txn_refines (c : Cfg) (hc : c.emptyLabel.len = 0) (m : InsertMode) (s : NodeStore) (a : Azks) (t : CRoot)
    (hidle : s.inTxn = false ∧ s.log = []) (hrep : C01.ReprRoot c m s t) (hwf : t.WF)
    (hep : ∀ lf ∈ t.leaves, 1 ≤ lf.ep ∧ lf.ep ≤ a.latestEpoch) (els : List (BitStr × Dig))
    (hpf : C01.PrefixFree (t.leaves ++ C01.newLeaves els (a.latestEpoch + 1)))
    (hlen : ∀ lf ∈ t.leaves ++ C01.newLeaves els (a.latestEpoch + 1), 1 ≤ lf.lbl.length ∧ lf.lbl.length ≤ 256) :
    ∃ s' n, s.begin.batchInsert c m a (els.map fun x => (NodeLabel.ofBits x.1, x.2))
        = .ok (s', ⟨a.latestEpoch + 1, n⟩) ∧ LogOK s' ∧
      C01.ReprRoot c m s'.commit ((C01.newLeaves els (a.latestEpoch + 1)).foldl CRoot.insert1 t) := by
  obtain ⟨s', n, hrun, hrep'⟩ := C01.batchInsert_refines c hc m s.begin a t
    (reprRoot_getRec_congr c m s s.begin (getRec_begin s hidle.1 hidle.2) t hrep) hwf hep els hpf hlen
  have hlog := logOK_batchInsert hrun (logOK_begin s hidle.2)
  exact ⟨s', n, hrun, hlog, reprRoot_getRec_congr c m s' s'.commit (getRec_commit s' hlog) _ hrep'⟩

end Akd.Pub
