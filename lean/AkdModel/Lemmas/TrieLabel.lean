/-
The non-membership verifier against a well-formed trie whose labels have at most 256 bits: the two
halves of C05 that need the byte-level label facts (`Lemmas/OfBits.lean`).
-/
import AkdModel.Lemmas.TrieLemmas
import AkdModel.Lemmas.OfBits
namespace Akd
open NodeLabel Canon

namespace CRoot

theorem verifyNonMembership_sound (c : Cfg) (hc : c.Lawful)
    (hE : ∀ bs : BitStr, bs.length ≤ 256 → ofBits bs ≠ c.emptyLabel)
    (t : CRoot) (hwf : t.WF) (hl : ∀ lf ∈ t.leaves, lf.lbl.length ≤ 256)
    (π : NonMembershipProof) (h : verifyNonMembership c (t.rootHash c) π = true) :
    ∀ lf ∈ t.leaves, ofBits lf.lbl ≠ π.label := by
  intro lf hlf hlab
  simp only [verifyNonMembership, Bool.and_eq_true] at h
  obtain ⟨⟨hshape, hcnp⟩, hmem⟩ := h
  obtain ⟨-, -, hpre, hlp, hlbl, hhash⟩ := (nonMembershipShape_iff c π).mp hshape
  obtain ⟨a, ha, hla⟩ := mem_leaves.mp hlf
  have hawf := hwf.child ha
  have hlf := hl lf hlf
  -- a tree with `lf` below it is not a child of the anchor: its label is a prefix of `π.label`
  have fin : ∀ k : CTree, k.WF → lf ∈ k.leaves →
      (π.child0.label = ofBits k.lbl ∨ π.child1.label = ofBits k.lbl) → False := by
    intro k hk hlk hch
    have hp := Tree.lbl_prefix hk lf hlk
    have hlen : k.lbl.length ≤ 256 := Nat.le_trans hp.length_le hlf
    have hkp : (ofBits k.lbl).isPrefixOf π.label = true := by
      rw [← hlab]
      exact (isPrefixOf_ofBits hlen hlf).mpr hp
    obtain ⟨h0, h1⟩ := (childrenNotPrefix_iff c π).mp hcnp
    rcases hch with e | e
    · rw [e] at h0
      exact h0 (hE _ hlen) hkp
    · rw [e] at h1
      exact h1 (hE _ hlen) hkp
  rcases verifyMembership_cases c hc t _ hmem with ⟨-, h2⟩ | ⟨o, ho, ⟨-, -, h2⟩ | ⟨a', s, rfl, hs, h1, h2⟩⟩
  · -- anchored at the root
    rw [← hhash] at h2
    rcases not_empty_cases t with he | he
    · rw [value_empty c _ t he] at h2
      exact hc.parent_ne_emptyRoot _ _ _ _ h2
    · rw [value_eq_parent c _ t he] at h2
      obtain ⟨-, e0, -, e1⟩ := hc.parent_inj _ _ _ _ _ _ _ _ h2
      rcases ha with ha | ha
      · rw [ha] at e0
        exact fin a hawf hla (.inl e0)
      · rw [ha] at e1
        exact fin a hawf hla (.inr e1)
  · -- an empty slot is not a parent hash
    exact hc.parent_ne_emptyNode _ _ _ _ (hhash.trans h2)
  · -- anchored at a subtree `s` of the child `a'`
    have ha' : t.Child a' := ho.elim (fun h => .inl h.symm) (fun h => .inr h.symm)
    rw [← hhash] at h2
    cases s with
    | leaf q w e => exact hc.leaf_ne_parent _ _ _ _ _ _ h2.symm
    | node q l r =>
      obtain ⟨-, e0, -, e1⟩ := hc.parent_inj _ _ _ _ _ _ _ _ h2
      have hswf := CTree.WF.sub hs (hwf.child ha')
      -- the anchor's label is a prefix of the leaf's label, so the leaf is below the anchor
      have hq : q <+: lf.lbl := by
        rw [hlp, hlbl, h1, ← hlab] at hpre
        have hql : q.length ≤ 256 := Nat.le_trans (isPrefixOf_len_le hpre) hlf
        exact (isPrefixOf_ofBits hql hlf).mp hpre
      cases hwf.child_unique ha ha' (Tree.lbl_prefix hawf lf hla)
        ((CTree.WF.sub_prefix hs (hwf.child ha')).trans hq)
      obtain ⟨b, hin⟩ := CTree.mem_leaves_node.mp (CTree.WF.sub_leaves hs hawf hla hq)
      cases b
      · exact fin l hswf.2.2.1 hin (.inl e0)
      · exact fin r hswf.2.2.2 hin (.inr e1)

/-- the side conditions of `verify_nonmembership` hold for a proof about `x` anchored at a node with
label `q` whose child slot on the side of bit `b` is `o b` (an empty one only below the root), when `q`
is a prefix of `x` and no child's label is -/
theorem anchored_shape (c : Cfg) (hE : ∀ bs : BitStr, bs.length ≤ 256 → ofBits bs ≠ c.emptyLabel)
    {x q : BitStr} (hx : x.length ≤ 256) (hqx : q <+: x) (o : Bool → Option CTree)
    (ho : ∀ b k, o b = some k → q ++ [b] <+: k.lbl ∧ k.lbl.length ≤ 256 ∧ ¬ k.lbl <+: x)
    (hroot : ∀ b, o b = none → q = []) {p : NonMembershipProof} {sps : List SiblingProof}
    (hp : p = ⟨ofBits x, ofBits q, element c (o false), element c (o true),
      ⟨ofBits q, c.parentHash (childValue c .withLeafEpoch (o false)) (childLabel c (o false))
        (childValue c .withLeafEpoch (o true)) (childLabel c (o true)), sps⟩⟩) :
    nonMembershipShape c p = true ∧ childrenNotPrefix c p = true := by
  subst hp
  have hq : q.length < 256 := by
    cases h : o false with
    | none => simp [hroot _ h]
    | some k =>
      have hk := (ho _ k h).1.length_le
      rw [List.length_append, List.length_singleton] at hk
      exact Nat.lt_of_lt_of_le hk (ho _ k h).2.1
  have slot : ∀ b, ofBits x ≠ childLabel c (o b) ∧
      (childLabel c (o b) ≠ c.emptyLabel → (childLabel c (o b)).isPrefixOf (ofBits x) ≠ true) := by
    intro b
    cases h : o b with
    | none => exact ⟨hE x hx, fun h => absurd rfl h⟩
    | some k =>
      obtain ⟨-, hk, hnp⟩ := ho b k h
      have h2 : (ofBits k.lbl).isPrefixOf (ofBits x) ≠ true := fun h => hnp ((isPrefixOf_ofBits hk hx).mp h)
      refine ⟨fun (e : ofBits x = ofBits k.lbl) => h2 ?_, fun _ => h2⟩
      rw [← e]
      exact (isPrefixOf_ofBits hx hx).mpr (List.prefix_refl x)
  -- the children fork right after `q`, so the `lcp` of their labels is `ofBits q`; an empty slot occurs below the root
  -- only, where `lcp` answers the marker and the verifier takes the root label
  have hlcp : (if lcp c.emptyLabel (childLabel c (o false)) (childLabel c (o true)) = c.emptyLabel
      then NodeLabel.root else lcp c.emptyLabel (childLabel c (o false)) (childLabel c (o true))) = ofBits q := by
    cases h0 : o false with
    | none => rw [if_pos (C17.lcp_empty c.emptyLabel (childLabel c none) _ (.inl rfl)), hroot _ h0, ofBits_nil]
    | some k0 =>
      cases h1 : o true with
      | none => rw [if_pos (C17.lcp_empty c.emptyLabel _ (childLabel c none) (.inr rfl)), hroot _ h1, ofBits_nil]
      | some k1 =>
        obtain ⟨p0, l0, -⟩ := ho _ k0 h0
        obtain ⟨p1, l1, -⟩ := ho _ k1 h1
        have hcp := commonPrefix_fork q _ _ p0 p1
        have : lcp c.emptyLabel (childLabel c (some k0)) (childLabel c (some k1)) = ofBits q :=
          (lcp_ofBits c.emptyLabel l0 l1 (hE _ l0) (hE _ l1) (by rw [hcp]; exact hq)).trans (by rw [hcp])
        rw [this, if_neg (hE q (Nat.le_of_lt hq))]
  exact ⟨(nonMembershipShape_iff c _).mpr ⟨(slot false).1, (slot true).1,
      (isPrefixOf_ofBits (Nat.le_of_lt hq) hx).mpr hqx, hlcp.symm, hlcp, rfl⟩,
    (childrenNotPrefix_iff c _).mpr ⟨(slot false).2, (slot true).2⟩⟩

/-- the proof generated for a query that extends no leaf label verifies (not on the empty trie, whose
root value is not a parent hash) -/
theorem verifyNonMembership_genNonMembership (c : Cfg)
    (hE : ∀ bs : BitStr, bs.length ≤ 256 → ofBits bs ≠ c.emptyLabel)
    (t : CRoot) (hwf : t.WF) (hl : ∀ lf ∈ t.leaves, lf.lbl.length ≤ 256)
    (hne : t.l ≠ none ∨ t.r ≠ none)
    (x : BitStr) (hx : x.length ≤ 256) (hnot : ∀ lf ∈ t.leaves, ¬ lf.lbl <+: x) :
    verifyNonMembership c (t.rootHash c) (t.genNonMembership c x) = true := by
  have hls : ∀ {a s}, t.Child a → CTree.Sub s a → ∀ lf ∈ s.leaves, lf.lbl.length ≤ 256 :=
    fun ha hs lf h => hl lf (mem_leaves.mpr ⟨_, ha, hs.leaves_subset h⟩)
  simp only [verifyNonMembership, Bool.and_eq_true]
  refine ⟨?_, genNonMembership_mp c t x ▸ verifyMembership_lcpProof c t x⟩
  rcases path_fst c t hwf x with ⟨he, hn⟩ | ⟨a, ha, hpa, he⟩
  · -- the walk stays at the root
    refine anchored_shape c hE hx List.nil_prefix (fun b => (t.side b).1) (fun b k hk => ?_) (fun _ _ => rfl)
      (sps := (t.path c x).2) ?_
    · have hch := child_iff_side.mpr ⟨b, hk⟩
      exact ⟨(hwf.side hk).1, Tree.lbl_length_le (hwf.side hk).2 (hls hch .refl), hn k hch⟩
    · rw [genNonMembership_none c t x he, ← ofBits_nil, value_eq_parent c _ t hne]
      rfl
  · -- the walk enters the child `a` and stops at `d`, which is not a leaf: its label is a prefix of `x`
    have hawf := hwf.child ha
    have hsub := CTree.path_sub c x a
    obtain ⟨hdp, hstop⟩ := hawf.path_end c hpa
    have hdwf := CTree.WF.sub hsub hawf
    cases hd : (a.path c x).1 with
    | leaf q v e =>
      rw [hd] at hdp hsub
      exact absurd hdp (hnot _ (mem_leaves.mpr ⟨a, ha, hsub.leaves_subset (List.mem_singleton_self _)⟩))
    | node q l r =>
      rw [hd] at he hdp hsub hdwf
      refine anchored_shape c hE hx hdp (fun b => some (CTree.child l r b)) ?_ nofun
        (genNonMembership_node c t x he)
      rintro b _ ⟨⟩
      exact ⟨(hdwf.node_child b).1, Tree.lbl_length_le (hdwf.node_child b).2 (fun lf h =>
        hls ha hsub lf (CTree.mem_leaves_node.mpr ⟨b, h⟩)), hstop q l r hd b⟩

end CRoot

end Akd
