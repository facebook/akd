/-
Inductive invariant of the cache-fill transition system (`AkdModel/CacheFill.lean`), repaired
protocol (`Proto.fixed`), over schedules satisfying `NoEvictInFill`.
-/
import AkdModel.CacheFill
namespace Akd.CacheFill

/-- What a reader's local state may hold, relative to the shared state.  The clause for `read g v` is the
generation check: a value read while the generation was `g` is the database's as long as `g` is current,
unless a write has reached the database and not yet bumped the generation (`w = .wrote`); the bump makes
`g = gen` false.  So a value that passed the check (`checked v`) is behind by the one write in flight at
most, or the entry has been filled meanwhile and the insertion will not happen. -/
def RInv (db gen : Nat) (w : WPc) (cache : Option Nat) : RPc → Prop
  | .idle => True
  | .missed g => g ≤ gen
  | .read g v => g ≤ gen ∧ (g = gen → v = db ∨ (w = .wrote ∧ v + 1 = db))
  | .checked v => v = db ∨ (w ≠ .idle ∧ v + 1 = db) ∨ ∃ c, cache = some c

structure Inv (s : Sys) : Prop where
  coh : Coherent s
  rd : ∀ r ∈ s.rs, RInv s.db s.gen s.w s.cache r
  ans : ∀ a ∈ s.answers, a.1 = a.2 ∨ a.1 + 1 = a.2

theorem inv_init (n : Nat) : Inv (init n) where
  coh := nofun
  rd := fun r hr => by cases List.eq_of_mem_replicate hr; trivial
  ans := nofun

theorem rinv_writer {s : Sys} (r : RPc) (h : RInv s.db s.gen s.w s.cache r) :
    match s.w with
    | .idle => RInv (s.db + 1) s.gen .wrote s.cache r
    | .wrote => RInv s.db (s.gen + 1) .bumped s.cache r
    | .bumped => RInv s.db s.gen .idle (some s.db) r := by
  -- the database write turns `v = db` into `v + 1 = db` under `w = .wrote`; the bump makes `g = gen` false for
  -- whoever took the generation before it; the cache update fills the entry, which is the last case of `checked`
  cases hw : s.w <;> cases r <;> simp only [RInv, hw] at h ⊢ <;> grind

theorem rinv_fill {d g : Nat} {w : WPc} {c : Option Nat} (v : Nat) {r : RPc} (h : RInv d g w c r) :
    RInv d g w (some v) r := by
  cases r with
  | checked _ => exact .inr (.inr ⟨v, rfl⟩)
  | _ => exact h

theorem rd_setR {s : Sys} {d g : Nat} {w : WPc} {c : Option Nat} (i : Nat) {r' : RPc}
    (h : ∀ r ∈ s.rs, RInv d g w c r) (hr : RInv d g w c r') : ∀ r ∈ (setR s i r').rs, RInv d g w c r := by
  intro r hm
  rcases List.mem_or_eq_of_mem_set hm with hm | rfl
  · exact h r hm
  · exact hr

theorem inv_step {s s' : Sys} {a : Act} (h : Inv s) (hstep : step .fixed s a = some s')
    (hev : a = .evict → ∀ r ∈ s.rs, ∀ v, r ≠ .checked v) : Inv s' := by
  cases a with
  | evict =>
    cases hstep
    refine { h with coh := nofun, rd := fun r hm => ?_ }
    have h1 := h.rd r hm
    cases r with
    | checked v => exact absurd rfl (hev rfl _ hm v)
    | _ => exact h1
  | writer =>
    have hc := h.coh
    have hr := fun r hm => rinv_writer r (h.rd r hm)
    unfold Coherent at hc
    simp only [step] at hstep
    split at hstep <;> rename_i hw <;> cases hstep <;> simp only [hw] at hc hr
    · -- no write was in flight, so the entry was the database's; it is now one behind
      exact { h with
        coh := fun v hv => (hc v hv).elim (fun e => .inr ⟨nofun, congrArg (· + 1) e⟩) (fun e => absurd rfl e.1)
        rd := hr }
    · exact { h with coh := fun v hv => (hc v hv).imp_right fun e => ⟨nofun, e.2⟩, rd := hr }
    · exact { h with coh := fun v hv => .inl (Option.some.inj hv).symm, rd := hr }
  | reader i =>
    simp only [step] at hstep
    split at hstep
    · cases hstep
    · -- idle
      split at hstep <;> cases hstep
      · -- a hit: the answer is what coherence allows the entry to be
        rename_i v hca
        exact { h with
          ans := List.forall_mem_append.2
            ⟨h.ans, List.forall_mem_singleton.2 ((h.coh v hca).imp_right And.right)⟩ }
      · exact { h with rd := rd_setR i h.rd (Nat.le_refl s.gen) }
    · -- missed: the database read
      rename_i g hi
      cases hstep
      have hri : g ≤ s.gen := h.rd _ (List.mem_of_getElem? hi)
      exact { h with rd := rd_setR i h.rd ⟨hri, fun _ => .inl rfl⟩ }
    · -- read: the generation check
      rename_i g v hi
      have hri := h.rd _ (List.mem_of_getElem? hi)
      split at hstep <;> cases hstep
      · rename_i hg
        refine { h with rd := rd_setR i h.rd ?_ }
        rcases hri.2 hg with h1 | ⟨hw, h1⟩
        · exact .inl h1
        · exact .inr (.inl ⟨(fun hi => nomatch hw.symm.trans hi), h1⟩)
      · exact { h with rd := rd_setR i h.rd trivial }
    · -- checked: the insertion, into a vacant entry only
      rename_i v hi
      have hri := h.rd _ (List.mem_of_getElem? hi)
      split at hstep <;> cases hstep
      · rename_i hca
        have hv : v = s.db ∨ s.w ≠ .idle ∧ v + 1 = s.db := by simpa [RInv, hca] using hri
        refine { h with
          coh := fun c hc => ?_
          rd := rd_setR (s := { s with cache := some v }) i (fun r hm => rinv_fill v (h.rd r hm)) trivial }
        cases hc
        exact hv
      · exact { h with rd := rd_setR i h.rd trivial }

theorem inv_run (sched : List Act) : ∀ (s s' : Sys), Inv s → run .fixed s sched = some s' →
    NoEvictInFill .fixed s sched → Inv s' := by
  induction sched with
  | nil => intro s s' h hrun _; cases hrun; exact h
  | cons a rest ih =>
    intro s s' h hrun hne
    simp only [run] at hrun
    simp only [NoEvictInFill] at hne
    split at hrun
    · rename_i s1 hs
      rw [hs] at hne
      exact ih s1 s' (inv_step h hs hne.1) hrun hne.2
    · cases hrun

instance (r : RPc) : Decidable (∀ v, r ≠ .checked v) :=
  match r with
  | .checked v => isFalse fun h => h v rfl
  | .idle | .missed _ | .read .. => isTrue nofun

instance decNoEvictInFill (pr : Proto) : ∀ s sched, Decidable (NoEvictInFill pr s sched)
  | _, [] => isTrue trivial
  | s, a :: rest =>
    match h : step pr s a with
    | some s' =>
      have := decNoEvictInFill pr s' rest
      decidable_of_iff ((a = .evict → ∀ r ∈ s.rs, ∀ v, r ≠ .checked v) ∧ NoEvictInFill pr s' rest)
        (by simp only [NoEvictInFill, h])
    | none =>
      decidable_of_iff (a = .evict → ∀ r ∈ s.rs, ∀ v, r ≠ .checked v)
        (by simp only [NoEvictInFill, h, and_true])

theorem inv_reachable (n : Nat) (sched : List Act) (s : Sys)
    (hrun : run .fixed (init n) sched = some s) (hne : NoEvictInFill .fixed (init n) sched) :
    Inv s :=
  inv_run sched (init n) s (inv_init n) hrun hne

end Akd.CacheFill
