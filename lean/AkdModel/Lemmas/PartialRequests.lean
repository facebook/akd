/-
C11b, C13c: what a reader finds in a database that holds part of a commit, or all of it, as of the epochs before
(`mixed_view`); the requests of two directories whose node stores give the same proofs.
-/
import AkdModel.Thm.C11
import AkdModel.Dir
import AkdModel.Lemmas.LagReads
namespace Akd.Part
open Akd C01

theorem readAt_idle (s : NodeStore) (h : s.inTxn = false) (e : Nat) (k : NodeLabel) :
    C11.readAt s e k = match C11.viewAt s.db e k with
      | some n => .ok n
      | none => .error .notFound := by
  unfold C11.readAt NodeStore.getNode NodeStore.getRec C11.viewAt
  rw [h]
  simp only [Bool.false_eq_true, if_false]
  cases s.db.get? k with
  | none => rfl
  | some r =>
    simp only
    rcases r.resolve_cases e with ⟨n, hr⟩ | hr <;> rw [hr]

/-- **a database that holds, under every key, the old record or the one the publish wrote** (any part of a commit
in any order; the whole commit) shows as of every earlier epoch what the old database shows, or nothing — and as of the
previous epoch exactly what the old database shows -/
theorem mixed_view (c : Cfg) (hc : c.emptyLabel.len = 0)
    (s : NodeStore) (a : Azks) (t : CRoot)
    (hidle : s.inTxn = false ∧ s.log = [])
    (hrep : ReprRoot c .directory s t) (hwf : t.WF)
    (hat : C11.AtEpoch s.db a.latestEpoch) (hkeyed : C11.WellKeyed s.db)
    (hdom : ∀ k, (s.db.get? k).isSome → k ∈ C11.nodeKeys t)
    (hep : ∀ lf ∈ t.leaves, 1 ≤ lf.ep ∧ lf.ep ≤ a.latestEpoch)
    (els : List (BitStr × Dig))
    (hpf : PrefixFree (t.leaves ++ newLeaves els (a.latestEpoch + 1)))
    (hlen : ∀ lf ∈ t.leaves ++ newLeaves els (a.latestEpoch + 1), 1 ≤ lf.lbl.length ∧ lf.lbl.length ≤ 256)
    (s' : NodeStore) (a' : Azks)
    (hins : s.begin.batchInsert c .directory a (els.map fun x => (NodeLabel.ofBits x.1, x.2)) = .ok (s', a'))
    (M : NodeMap) (hM : Mixed s.db s'.log M) (e : Nat) (he : e ≤ a.latestEpoch) (k : NodeLabel) :
    C11.readAt { db := M, log := [], inTxn := false } e k = C11.readAt s e k ∨
      (e < a.latestEpoch ∧ C11.readAt { db := M, log := [], inTxn := false } e k = .error .notFound) := by
  have hti := txn_core c hc s a t hidle hrep hwf hat hep els hpf hlen s' a' hins
  have hnew := newInv_batchInsert s.db hkeyed hins (newInv_begin hidle.2 _)
  rw [readAt_idle _ rfl, readAt_idle s hidle.1]
  unfold C11.viewAt
  rcases hM k with h | ⟨r', hl, h⟩
  · exact .inl (by rw [h])
  · rw [h]
    cases hd : s.db.get? k with
    | none =>
      -- a key that is new in this epoch: one version, of the new epoch
      obtain ⟨h1, h2⟩ := hnew.fresh k r' hl hd
      simp only [C13.resolve_of_lt_none r' e (by omega) h2]
      exact .inl trivial
    | some r =>
      obtain ⟨q, hq, rfl⟩ := C11.nodeKeys_rootK (hdom _ (by rw [hd]; rfl))
      rcases hti.2.2 q r' r hq hl hd e (by omega) with ⟨hst, h1⟩ | ⟨n, m, h1, h2, h3⟩
      · simp only [h1]; exact .inr ⟨by omega, trivial⟩
      · left
        simp only [h1, h2, h3]

theorem stateLeq_append (nodes ns : NodeStore) (az : Option Azks) (states extra : List ValueState) (vrf : VrfTable)
    (ck : Dig) (u : Bytes) (cur : Nat) (hextra : ∀ x ∈ extra, cur < x.epoch) :
    Dir.stateLeq ⟨ns, az, states ++ extra, vrf, ck⟩ u cur = Dir.stateLeq ⟨nodes, az, states, vrf, ck⟩ u cur := by
  unfold Dir.stateLeq
  simp only [List.filter_append]
  have : extra.filter (fun s => decide (s.username = u ∧ s.epoch ≤ cur)) = [] := by
    rw [List.filter_eq_nil_iff]
    intro x hx
    have := hextra x hx
    simp only [decide_eq_true_eq, not_and]
    intro _
    omega
  rw [this, List.append_nil]

theorem vrfLabel_ns (nodes ns : NodeStore) (az : Option Azks) (states ss : List ValueState) (vrf : VrfTable)
    (ck : Dig) : Dir.vrfLabel ⟨ns, az, ss, vrf, ck⟩ = Dir.vrfLabel ⟨nodes, az, states, vrf, ck⟩ := rfl

theorem updateProof_congr (c : Cfg) (nodes ns : NodeStore) (a : Azks) (states ss : List ValueState)
    (vrf : VrfTable) (ck : Dig)
    (hm : ∀ l, ns.membershipProof c a l = nodes.membershipProof c a l) (u : Bytes) :
    Dir.updateProof c ⟨ns, some a, ss, vrf, ck⟩ a u = Dir.updateProof c ⟨nodes, some a, states, vrf, ck⟩ a u := by
  funext st
  unfold Dir.updateProof
  simp only [hm, vrfLabel_ns nodes ns (some a) states ss vrf ck]

theorem filter_append_later (states extra : List ValueState) (u : Bytes) (cur : Nat)
    (hextra : ∀ x ∈ extra, cur < x.epoch) :
    ((states ++ extra).filter (fun s => s.username = u)).filter (fun s => s.epoch ≤ cur)
      = (states.filter (fun s => s.username = u)).filter (fun s => s.epoch ≤ cur) := by
  rw [List.filter_append, List.filter_append]
  have : (extra.filter (fun s => decide (s.username = u))).filter (fun s => decide (s.epoch ≤ cur)) = [] := by
    rw [List.filter_eq_nil_iff]
    intro x hx
    have := hextra x (List.mem_filter.1 hx).1
    simp only [decide_eq_true_eq]
    omega
  rw [this, List.append_nil]

theorem isEmpty_filter_append (states extra : List ValueState) (u : Bytes)
    (h : states.filter (fun s => s.username = u) ≠ []) :
    ((states ++ extra).filter (fun s => s.username = u)).isEmpty
      = (states.filter (fun s => s.username = u)).isEmpty := by
  rw [List.filter_append]
  cases hf : states.filter (fun s => decide (s.username = u)) with
  | nil => exact absurd hf h
  | cons x xs => rfl

theorem keyHistory_nodata (c : Cfg) (d : Dir) (a : Azks) (hazks : d.azks = some a) (u : Bytes)
    (p : HistoryParams)
    (h : (d.states.filter (fun s => s.username = u)).filter (fun s => s.epoch ≤ a.latestEpoch) = []) :
    d.keyHistory c u p = .error .notFound := by
  unfold Dir.keyHistory
  simp only [hazks, h]
  cases p <;> simp [throw, throwThe, MonadExcept.throw, bind, Except.bind] <;>
    split <;> rfl

theorem audit_congr (c : Cfg) (nodes ns : NodeStore) (a : Azks) (states ss : List ValueState)
    (vrf : VrfTable) (ck : Dig)
    (ha : ∀ s0 e0, ns.appendOnlyProof c a s0 e0 = nodes.appendOnlyProof c a s0 e0) (s0 e0 : Nat) :
    Dir.audit c ⟨ns, some a, ss, vrf, ck⟩ s0 e0 = Dir.audit c ⟨nodes, some a, states, vrf, ck⟩ s0 e0 := by
  unfold Dir.audit
  simp only [ha]

/-- **the requests read the node store only through the four proof generators**, and the value states only up to the
epoch: a directory whose node store gives the same proofs, with value states of later epochs besides, answers alike -/
theorem requests_congr (c : Cfg) (nodes ns : NodeStore) (a : Azks) (states extra : List ValueState)
    (vrf : VrfTable) (ck : Dig) (hr : ns.rootHash c a = nodes.rootHash c a)
    (hm : ∀ l, ns.membershipProof c a l = nodes.membershipProof c a l)
    (hn : ∀ l, ns.nonMembershipProof c a l = nodes.nonMembershipProof c a l)
    (ha : ∀ s0 e0, ns.appendOnlyProof c a s0 e0 = nodes.appendOnlyProof c a s0 e0)
    (hextra : ∀ x ∈ extra, a.latestEpoch < x.epoch) :
    Dir.epochHash c ⟨ns, some a, states ++ extra, vrf, ck⟩ = Dir.epochHash c ⟨nodes, some a, states, vrf, ck⟩ ∧
    (∀ u, Dir.lookup c ⟨ns, some a, states ++ extra, vrf, ck⟩ u = Dir.lookup c ⟨nodes, some a, states, vrf, ck⟩ u) ∧
    (∀ u p, Dir.keyHistory c ⟨ns, some a, states ++ extra, vrf, ck⟩ u p
      = Dir.keyHistory c ⟨nodes, some a, states, vrf, ck⟩ u p) ∧
    (∀ s0 e0, Dir.audit c ⟨ns, some a, states ++ extra, vrf, ck⟩ s0 e0
      = Dir.audit c ⟨nodes, some a, states, vrf, ck⟩ s0 e0) := by
  have hv := vrfLabel_ns nodes ns (some a) states (states ++ extra) vrf ck
  refine ⟨?_, fun u => ?_, fun u p => ?_, audit_congr c nodes ns a states _ vrf ck ha⟩
  · unfold Dir.epochHash
    simp only [hr]
  · unfold Dir.lookup
    simp only [stateLeq_append nodes ns (some a) states extra vrf ck u a.latestEpoch hextra, hr, hm, hn, hv]
  · by_cases he : states.filter (fun s => s.username = u) = []
    · rw [keyHistory_nodata c _ a rfl u p (by
          simp only
          rw [filter_append_later states extra u a.latestEpoch hextra, he]; rfl),
        keyHistory_nodata c _ a rfl u p (by simp only; rw [he]; rfl)]
    · unfold Dir.keyHistory
      simp only [isEmpty_filter_append states extra u he, filter_append_later states extra u a.latestEpoch hextra,
        hr, hm, hn, hv, updateProof_congr c nodes ns a states _ vrf ck hm]

end Akd.Part
