/-
About the versioned node records, over `Rec.lean` only:
* histories: lists with strictly increasing keys (`key := TreeNode.lastEpoch`) written as `ys ++ [last]`;
* the record store: reads after writes, `writeNode` never fails.
-/
import AkdModel.Rec
namespace Akd

theorem increasing_concat {α : Type} (key : α → Nat) {ys : List α} {a : α} :
    (ys ++ [a]).Pairwise (fun x y => key x < key y) ↔
      ys.Pairwise (fun x y => key x < key y) ∧ ∀ x ∈ ys, key x < key a := by
  simp [List.pairwise_append]

theorem NodeMap.get?_set (m : NodeMap) (r : NodeRec) (k : NodeLabel) :
    NodeMap.get? (NodeMap.set m r) k = if k = r.label then some r else NodeMap.get? m k := by
  induction m with
  | nil => simp [NodeMap.set, NodeMap.get?, eq_comm]
  | cons kr rest ih =>
    obtain ⟨k', r'⟩ := kr
    by_cases h1 : k' = r.label <;> by_cases h : k = r.label <;> simp_all [NodeMap.set, NodeMap.get?, eq_comm]

theorem NodeStore.getRec_setRec (s : NodeStore) (r : NodeRec) (k : NodeLabel) :
    (s.setRec r).getRec k = if k = r.label then some r else s.getRec k := by
  unfold NodeStore.setRec NodeStore.getRec
  cases s.inTxn <;> by_cases h : k = r.label <;> simp [NodeMap.get?_set, h]

theorem NodeStore.getRec_setRec_self (s : NodeStore) (r : NodeRec) : (s.setRec r).getRec r.label = some r := by
  rw [getRec_setRec, if_pos rfl]

theorem NodeStore.getRec_setRec_ne (s : NodeStore) (r : NodeRec) (k : NodeLabel) (h : k ≠ r.label) :
    (s.setRec r).getRec k = s.getRec k := by
  rw [getRec_setRec, if_neg h]

theorem NodeRec.resolve_cases (r : NodeRec) (t : Nat) :
    (∃ n, r.resolve t = .ok n) ∨ r.resolve t = .error .notFound := by
  unfold NodeRec.resolve
  split
  · split
    · split
      · exact .inr rfl
      · exact .inl ⟨_, rfl⟩
    · exact .inr rfl
  · exact .inl ⟨_, rfl⟩

theorem NodeRec.resolve_eq_ok {r : NodeRec} {t : Nat} {n : TreeNode} :
    r.resolve t = .ok n ↔ (r.latest.lastEpoch ≤ t ∧ r.latest = n) ∨
      (t < r.latest.lastEpoch ∧ r.previous = some n ∧ n.lastEpoch ≤ t) := by
  unfold NodeRec.resolve
  by_cases h : r.latest.lastEpoch > t
  · rw [if_pos h]
    cases r.previous with
    | none => simp [Nat.not_le_of_lt h]
    | some p =>
      by_cases hp : p.lastEpoch > t
      · simp only [if_pos hp, Nat.not_le_of_lt h, false_and, false_or, Option.some.injEq, reduceCtorEq, false_iff]
        rintro ⟨_, rfl, hn⟩
        omega
      · simp only [if_neg hp, Nat.not_le_of_lt h, false_and, false_or, Option.some.injEq, Except.ok.injEq]
        exact ⟨fun e => ⟨h, e, e ▸ Nat.le_of_not_lt hp⟩, fun e => e.2.1⟩
  · simp [h, Nat.le_of_not_lt h]

theorem NodeStore.writeNode_new (s : NodeStore) (n : TreeNode) :
    s.writeNode n true = .ok (s.setRec ⟨n.label, n, none⟩) := rfl

theorem NodeStore.writeNode_old (s : NodeStore) (n : TreeNode) (r : NodeRec) (hr : s.getRec n.label = some r) :
    s.writeNode n false = .ok (s.setRec ⟨n.label, n,
      (r.resolve (if n.lastEpoch > 0 then n.lastEpoch - 1 else n.lastEpoch)).toOption⟩) := by
  unfold NodeStore.writeNode NodeStore.getNode
  simp only [Bool.false_eq_true, if_false, hr]
  rcases r.resolve_cases (if n.lastEpoch > 0 then n.lastEpoch - 1 else n.lastEpoch) with ⟨p, hp⟩ | hp <;> rw [hp] <;> rfl

theorem NodeStore.writeNode_ok (s : NodeStore) (n : TreeNode) (isNew : Bool) :
    ∃ p, s.writeNode n isNew = .ok (s.setRec ⟨n.label, n, p⟩) := by
  cases isNew
  · cases hr : s.getRec n.label with
    | some r => exact ⟨_, writeNode_old s n r hr⟩
    | none => exact ⟨none, by simp [NodeStore.writeNode, NodeStore.getNode, hr]⟩
  · exact ⟨none, rfl⟩

end Akd
