/-
For C18: little and big endian byte encodings and the 80-byte proof layout.
-/
import AkdModel.Vrf
namespace Akd.Vrf

theorem littleEndian_succ (k n : Nat) : le (k + 1) n = UInt8.ofNat (n % 256) :: le k (n / 256) := by
  simp only [le, List.range_succ_eq_map, List.map_cons, List.map_map]
  congr 1
  apply List.map_congr_left
  intro i _
  simp only [Function.comp, Nat.shiftRight_eq_div_pow]
  rw [Nat.mul_succ, Nat.pow_add, Nat.div_div_eq_div_mul, Nat.mul_comm]

theorem ofLe_le (k n : Nat) : ofLe (le k n) = n % 256 ^ k := by
  induction k generalizing n with
  | zero => simp [le, ofLe, Nat.mod_one]
  | succ k ih =>
    rw [littleEndian_succ, ofLe, List.foldr_cons, ← ofLe, ih, Nat.pow_succ, Nat.mul_comm (256 ^ k) 256, Nat.mod_mul]
    simp

theorem littleEndian_length (k n : Nat) : (le k n).length = k := by simp [le]

theorem be8_eq (n : Nat) : be8 n = (le 8 n).reverse := rfl

theorem be8_length (n : Nat) : (be8 n).length = 8 := by simp [be8]

theorem be8_inj {n m : Nat} (hn : n < 2 ^ 64) (hm : m < 2 ^ 64) (h : be8 n = be8 m) : n = m := by
  rw [be8_eq, be8_eq, List.reverse_inj] at h
  have := congrArg ofLe h
  rwa [ofLe_le, ofLe_le, Nat.mod_eq_of_lt (by simpa using hn), Nat.mod_eq_of_lt (by simpa using hm)] at this

theorem two_ell_lt : ell + ell < 256 ^ 32 := by decide
theorem c_lt_ell {c : Nat} (h : c < 2 ^ 128) : c < ell :=
  Nat.lt_trans h (by decide)

theorem decodeProof_parts (g : Bytes) (c s' : Nat) (hg : g.length = 32) :
    decodeProof (g ++ le 16 c ++ le 32 s') = some ⟨g, (c % 256 ^ 16) % ell, (s' % 256 ^ 32) % ell⟩ := by
  have h48 : g.length ≤ 48 := by omega
  simp [decodeProof, hg, littleEndian_length, ofLe_le, List.drop_append, List.drop_eq_nil_of_le h48]

theorem decodeProof_of_mod_eq (p : Proof) (hg : p.gamma.length = 32) (hc : p.c < 2 ^ 128) (s' : Nat)
    (hs' : s' < 256 ^ 32) (hmod : s' % ell = p.s) :
    decodeProof (p.gamma ++ le 16 p.c ++ le 32 s') = some p := by
  rw [decodeProof_parts _ _ _ hg, Nat.mod_eq_of_lt (by simpa using hc : p.c < 256 ^ 16), Nat.mod_eq_of_lt hs',
    Nat.mod_eq_of_lt (c_lt_ell hc), hmod]

end Akd.Vrf
