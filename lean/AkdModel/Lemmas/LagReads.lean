/-
The proof generators of `Insert.lean` read the store only through `getNode · epoch` and never look at the `parent`
field of a node.  On a store whose reads as of that epoch show what another store shows, or "not found"
(`C13.ViewLe`), every generator returns what it returns there, or fails with "not found" (`LeN`).  `LeN` is
antisymmetric: stores with the same reads give the same proofs.
-/
import AkdModel.Thm.C13
import AkdModel.Insert
import AkdModel.Lemmas.AuditGenStore
import AkdModel.Lemmas.GenProof

namespace Akd.Part
open Akd

/-- the node with another `parent` -/
def setP (n : TreeNode) (p : NodeLabel) : TreeNode := { n with parent := p }

@[simp] theorem setP_label (n : TreeNode) (p : NodeLabel) : (setP n p).label = n.label := rfl
@[simp] theorem setP_lastEpoch (n : TreeNode) (p : NodeLabel) : (setP n p).lastEpoch = n.lastEpoch := rfl
@[simp] theorem setP_minDescEpoch (n : TreeNode) (p : NodeLabel) : (setP n p).minDescEpoch = n.minDescEpoch := rfl
@[simp] theorem setP_nodeType (n : TreeNode) (p : NodeLabel) : (setP n p).nodeType = n.nodeType := rfl
@[simp] theorem setP_left (n : TreeNode) (p : NodeLabel) : (setP n p).left = n.left := rfl
@[simp] theorem setP_right (n : TreeNode) (p : NodeLabel) : (setP n p).right = n.right := rfl
@[simp] theorem setP_hash (n : TreeNode) (p : NodeLabel) : (setP n p).hash = n.hash := rfl
@[simp] theorem setP_childLabel (n : TreeNode) (p : NodeLabel) (d : Direction) :
    (setP n p).childLabel d = n.childLabel d := by cases d <;> rfl

theorem hashOf_setP (c : Cfg) (n : TreeNode) (p : NodeLabel) : Gen.hashOf c (setP n p) = Gen.hashOf c n := rfl

theorem eq_setP {n n' : TreeNode} (h : C13.eraseParent n' = C13.eraseParent n) : n' = setP n n'.parent := by
  cases n; cases n'
  simp only [C13.eraseParent, TreeNode.mk.injEq] at h
  simp only [setP, TreeNode.mk.injEq]
  simp only [h, and_self]

end Akd.Part

namespace Akd.C11
open Akd

/-- what a read of key `k` as of epoch `e` yields, modulo the `parent` field -/
def readAt (s : NodeStore) (e : Nat) (k : NodeLabel) : Except Err TreeNode :=
  match s.getNode k e with
  | .ok n => .ok (C13.eraseParent n)
  | .error x => .error x

end Akd.C11

namespace Akd.C13
open Akd C11

/-- the later store `s'` shows, as of epoch `e`, what `s` shows, or nothing -/
def ViewLe (s s' : NodeStore) (e : Nat) : Prop :=
  ∀ k, readAt s' e k = readAt s e k ∨ readAt s' e k = .error .notFound

theorem viewLe_of_eq {s s' : NodeStore} {e : Nat} (h : ∀ k, readAt s' e k = readAt s e k) :
    ViewLe s s' e ∧ ViewLe s' s e :=
  ⟨fun k => .inl (h k), fun k => .inl (h k).symm⟩

theorem ViewLe.refl (s : NodeStore) (e : Nat) : ViewLe s s e := fun _ => .inl rfl

theorem ViewLe.trans {s1 s2 s3 : NodeStore} {e : Nat} (h12 : ViewLe s1 s2 e) (h23 : ViewLe s2 s3 e) :
    ViewLe s1 s3 e := by
  intro k
  rcases h23 k with h | h
  · rw [h]; exact h12 k
  · exact .inr h

end Akd.C13

namespace Akd.Lag
open Akd NodeStore Part
open Akd.C13 (ViewLe)

/-- the same answer, or "not found" -/
def LeN {α : Type} (r' r : Except Err α) : Prop := r' = r ∨ r' = .error .notFound

theorem LeN.antisymm {α : Type} {r' r : Except Err α} (h : LeN r' r) (h' : LeN r r') : r' = r := by
  rcases h with h | h
  · exact h
  · rcases h' with h' | h'
    · exact h'.symm
    · rw [h, h']

theorem viewLe_cases {s s' : NodeStore} {e : Nat} (h : ViewLe s s' e) (k : NodeLabel) :
    s'.getNode k e = .error .notFound ∨
    ∃ n p, s'.getNode k e = .ok (setP n p) ∧ s.getNode k e = .ok n := by
  rcases Ins.getNode_cases s' k e with ⟨n', h1⟩ | h1
  · have hk := h k
    unfold C11.readAt at hk
    rw [h1] at hk
    cases h2 : s.getNode k e with
    | error y =>
      rw [h2] at hk
      rcases hk with hk | hk <;> cases hk
    | ok n =>
      rw [h2] at hk
      rcases hk with hk | hk
      · simp only [Except.ok.injEq] at hk
        exact .inr ⟨n, n'.parent, by rw [h1, ← eq_setP hk], rfl⟩
      · cases hk
  · exact .inl h1

theorem getChildForProof_le {s s' : NodeStore} {e : Nat} (h : ViewLe s s' e) (n : TreeNode) (p : NodeLabel)
    (d : Direction) :
    s'.getChildForProof (setP n p) d e = .error .notFound ∨
    (s'.getChildForProof (setP n p) d e = .ok none ∧ s.getChildForProof n d e = .ok none) ∨
    ∃ ch q, s'.getChildForProof (setP n p) d e = .ok (some (setP ch q)) ∧
      s.getChildForProof n d e = .ok (some ch) := by
  unfold getChildForProof getChild
  rw [setP_childLabel]
  cases n.childLabel d with
  | none => exact .inr (.inl ⟨rfl, rfl⟩)
  | some l =>
    rcases viewLe_cases h l with h1 | ⟨m, q, h1, h2⟩
    · simp only [h1]
      exact .inl rfl
    · simp only [h1, h2]
      exact .inr (.inr ⟨m, q, rfl, rfl⟩)

theorem childElement_le {s s' : NodeStore} {e : Nat} (h : ViewLe s s' e) (c : Cfg) (n : TreeNode)
    (p : NodeLabel) (d : Direction) :
    LeN (childElement c s' (setP n p) d e) (childElement c s n d e) := by
  unfold childElement
  rcases getChildForProof_le h n p d with h1 | ⟨h1, h2⟩ | ⟨ch, q, h1, h2⟩
  · rw [h1]; exact .inr rfl
  · rw [h1, h2]; exact .inl rfl
  · rw [h1, h2]; exact .inl rfl

/-- what `lcpProof` makes of the result of the walk -/
def walkProof (c : Cfg) (w : Except Err (TreeNode × TreeNode × List SiblingProof × Bool)) :
    Except Err (NodeLabel × MembershipProof) :=
  match w with
  | .error e => .error e
  | .ok r => .ok ((Gen.finish r).1.label, ⟨(Gen.finish r).1.label, Gen.hashOf c (Gen.finish r).1, (Gen.finish r).2⟩)

theorem walkProof_setP (c : Cfg) (cur prev : TreeNode) (p p2 : NodeLabel) (sps : List SiblingProof) (eq : Bool) :
    walkProof c (.ok (setP cur p, setP prev p2, sps, eq)) = walkProof c (.ok (cur, prev, sps, eq)) := by
  cases eq <;> rfl

theorem lcpWalk_le {s s' : NodeStore} {e : Nat} (h : ViewLe s s' e) (c : Cfg) (label : NodeLabel) :
    ∀ (fuel : Nat) (cur prev : TreeNode) (sps : List SiblingProof) (p p2 : NodeLabel),
      LeN (walkProof c (lcpWalk c s' label e fuel (setP cur p) (setP prev p2) sps))
        (walkProof c (lcpWalk c s label e fuel cur prev sps)) := by
  intro fuel
  induction fuel with
  | zero => intro cur prev sps p p2; exact .inl rfl
  | succ f ih =>
    intro cur prev sps p p2
    rw [lcpWalk, lcpWalk, setP_label]
    dsimp only
    generalize (if cur.label.prefixOrdering label = .withZero then Direction.left else .right) = dir
    split
    · exact .inl (walkProof_setP c cur prev p p2 sps _)
    · rcases getChildForProof_le h cur p dir with h1 | ⟨h1, h2⟩ | ⟨ch, q, h1, h2⟩
      · rw [h1]; exact .inr rfl
      · rw [h1, h2]; exact .inl (walkProof_setP c cur prev p p2 sps _)
      · rw [h1, h2]
        dsimp only
        rcases childElement_le h c cur p dir.other with h3 | h3
        · rw [h3]
          cases childElement c s cur dir.other e with
          | error x => exact .inl rfl
          | ok sib => exact ih ch cur _ q p
        · rw [h3]; exact .inr rfl

theorem lcpProof_le {s s' : NodeStore} (c : Cfg) (a : Azks) (h : ViewLe s s' a.latestEpoch) (label : NodeLabel) :
    LeN (s'.lcpProof c a label) (s.lcpProof c a label) := by
  rw [Gen.lcpProof_eq, Gen.lcpProof_eq]
  rcases viewLe_cases h NodeLabel.root with h1 | ⟨root, p, h1, h2⟩
  · rw [h1]; exact .inr rfl
  · rw [h1, h2]
    exact lcpWalk_le h c label 300 root root [] p p

theorem membershipProof_le {s s' : NodeStore} (c : Cfg) (a : Azks) (h : ViewLe s s' a.latestEpoch)
    (label : NodeLabel) : LeN (s'.membershipProof c a label) (s.membershipProof c a label) := by
  unfold membershipProof
  rcases lcpProof_le c a h label with h1 | h1 <;> rw [h1]
  · exact .inl rfl
  · exact .inr rfl

theorem rootHash_le {s s' : NodeStore} (c : Cfg) (a : Azks) (h : ViewLe s s' a.latestEpoch) :
    LeN (s'.rootHash c a) (s.rootHash c a) := by
  unfold rootHash
  rcases viewLe_cases h NodeLabel.root with h1 | ⟨root, p, h1, h2⟩
  · rw [h1]; exact .inr rfl
  · rw [h1, h2]; exact .inl rfl

theorem childEl_le {s s' : NodeStore} {e : Nat} (h : ViewLe s s' e) (c : Cfg) (n : TreeNode)
    (p : NodeLabel) (d : Direction) :
    LeN (Gen.childEl c s' e (setP n p) d) (Gen.childEl c s e n d) := by
  unfold Gen.childEl
  rcases getChildForProof_le h n p d with h1 | ⟨h1, h2⟩ | ⟨ch, q, h1, h2⟩
  · rw [h1]; exact .inr rfl
  · rw [h1, h2]; exact .inl rfl
  · rw [h1, h2]
    dsimp only [setP_label]
    rcases viewLe_cases h ch.label with h3 | ⟨u, r, h3, h4⟩
    · rw [h3]; exact .inr rfl
    · rw [h3, h4]; exact .inl rfl

theorem nonMembershipProof_le {s s' : NodeStore} (c : Cfg) (a : Azks) (h : ViewLe s s' a.latestEpoch)
    (label : NodeLabel) : LeN (s'.nonMembershipProof c a label) (s.nonMembershipProof c a label) := by
  rw [Gen.nonMembershipProof_eq, Gen.nonMembershipProof_eq]
  rcases lcpProof_le c a h label with h0 | h0 <;> rw [h0]
  · cases s.lcpProof c a label with
    | error x => exact .inl rfl
    | ok r =>
      dsimp only
      rcases viewLe_cases h r.1 with h1 | ⟨n, p, h1, h2⟩
      · rw [h1]; exact .inr rfl
      · rw [h1, h2]
        dsimp only [setP_label]
        rcases childEl_le h c n p .left with hl | hl <;> rw [hl]
        · rcases childEl_le h c n p .right with hr | hr <;> rw [hr]
          · exact .inl rfl
          · cases Gen.childEl c s a.latestEpoch n .left with
            | error x => exact .inl rfl
            | ok v => exact .inr rfl
        · exact .inr rfl
  · exact .inr rfl

theorem hcomb_le {a' a b' b : Except Err (List AzksElement × List AzksElement)} (ha : LeN a' a) (hb : LeN b' b) :
    LeN (AGen.hcomb a' b') (AGen.hcomb a b) := by
  rcases ha with rfl | rfl
  · rcases hb with rfl | rfl
    · exact .inl rfl
    · cases a' with
      | error x => exact .inl rfl
      | ok v => exact .inr rfl
  · exact .inr rfl

theorem appendOnlyHelper_setP (c : Cfg) (s : NodeStore) (latest lo hi : Nat) : ∀ (fuel : Nat) (n : TreeNode)
    (p : NodeLabel), appendOnlyHelper c s latest lo hi fuel (setP n p) = appendOnlyHelper c s latest lo hi fuel n
  | 0, _, _ => rfl
  | _ + 1, _, _ => rfl

theorem appendOnlyHelper_le {s s' : NodeStore} {latest : Nat} (h : ViewLe s s' latest) (c : Cfg)
    (lo hi : Nat) : ∀ (fuel : Nat) (n : TreeNode),
      LeN (appendOnlyHelper c s' latest lo hi fuel n) (appendOnlyHelper c s latest lo hi fuel n) := by
  intro fuel
  induction fuel with
  | zero => intro n; exact .inl rfl
  | succ f ih =>
    intro n
    have hside : ∀ l, LeN (AGen.hside c s' latest lo hi f l) (AGen.hside c s latest lo hi f l) := by
      intro l
      unfold AGen.hside
      cases l with
      | none => exact .inl rfl
      | some cl =>
        rcases viewLe_cases h cl with h1 | ⟨m, q, h1, h2⟩
        · simp only [h1]; exact .inr rfl
        · simp only [h1, h2, appendOnlyHelper_setP]; exact ih m
    rw [AGen.helper_succ, AGen.helper_succ]
    by_cases h1 : n.lastEpoch ≤ lo
    · rw [if_pos h1, if_pos h1]; exact .inl rfl
    · rw [if_neg h1, if_neg h1]
      by_cases h2 : n.minDescEpoch > hi
      · rw [if_pos h2, if_pos h2]; exact .inl rfl
      · rw [if_neg h2, if_neg h2]
        by_cases h3 : n.nodeType = .leaf
        · rw [if_pos h3, if_pos h3]; exact .inl rfl
        · rw [if_neg h3, if_neg h3]
          exact hcomb_le (hside _) (hside _)

theorem appendOnlyProof_le {s s' : NodeStore} (c : Cfg) (a : Azks) (h : ViewLe s s' a.latestEpoch)
    (s0 e0 : Nat) : LeN (s'.appendOnlyProof c a s0 e0) (s.appendOnlyProof c a s0 e0) := by
  have hgo : ∀ (root : TreeNode) (p : NodeLabel) (k ep : Nat) (acc : AppendOnlyProof),
      LeN (appendOnlyProof.go c s' a (setP root p) k ep acc) (appendOnlyProof.go c s a root k ep acc) := by
    intro root p k
    induction k with
    | zero => intro ep acc; exact .inl rfl
    | succ k ih =>
      intro ep acc
      unfold appendOnlyProof.go
      rw [appendOnlyHelper_setP]
      rcases appendOnlyHelper_le h c ep (ep + 1) 300 root with h1 | h1 <;> rw [h1]
      · cases appendOnlyHelper c s a.latestEpoch ep (ep + 1) 300 root with
        | error x => exact .inl rfl
        | ok r => exact ih _ _
      · exact .inr rfl
  unfold appendOnlyProof
  split
  · exact .inl rfl
  · rcases viewLe_cases h NodeLabel.root with h1 | ⟨root, p, h1, h2⟩
    · rw [h1]; exact .inr rfl
    · rw [h1, h2]
      exact hgo root p _ _ _

end Akd.Lag
