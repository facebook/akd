/-
The label of a bit string (`NodeLabel.ofBits`) under the byte-level label operations, for
strings of at most 256 bits: the C17 facts about `bits`, read through `bits (ofBits b) = b`.
-/
import AkdModel.Thm.C17
namespace Akd.NodeLabel

theorem ofBits_len (bs : BitStr) : (ofBits bs).len = bs.length := rfl

theorem ofBits_nil : ofBits [] = NodeLabel.root := by
  have h : ∀ i : Fin 32, byteOfBits (([] : BitStr).drop (8 * i.val)) = 0 := fun i => by
    rw [List.drop_nil]; decide
  unfold ofBits NodeLabel.root
  simp only [h]
  rfl

theorem ofBits_inj {a b : BitStr} (ha : a.length ≤ 256) (hb : b.length ≤ 256) (h : ofBits a = ofBits b) :
    a = b := by
  rw [← C17.bits_ofBits a ha, ← C17.bits_ofBits b hb, h]

theorem isPrefixOf_ofBits {a b : BitStr} (ha : a.length ≤ 256) (hb : b.length ≤ 256) :
    (ofBits a).isPrefixOf (ofBits b) = true ↔ a <+: b := by
  rw [C17.isPrefixOf_iff _ _ ha hb, C17.bits_ofBits a ha, C17.bits_ofBits b hb]

theorem lcp_ofBits (e : NodeLabel) {a b : BitStr} (ha : a.length ≤ 256) (hb : b.length ≤ 256)
    (hae : ofBits a ≠ e) (hbe : ofBits b ≠ e) (hlt : (BitStr.commonPrefix a b).length < 256) :
    lcp e (ofBits a) (ofBits b) = ofBits (BitStr.commonPrefix a b) := by
  obtain ⟨h1, h2, h3⟩ := C17.lcp_spec e (ofBits a) (ofBits b) hae hbe ha hb
  rw [C17.bits_ofBits a ha, C17.bits_ofBits b hb] at h1 h2
  have hlen : (lcp e (ofBits a) (ofBits b)).len < 256 := by rw [h2]; exact hlt
  rw [← h1]
  exact (C17.ofBits_bits _ (Nat.le_of_lt hlen) (h3 hlen)).symm

theorem isPrefixOf_len_le {a b : NodeLabel} (h : a.isPrefixOf b = true) : a.len ≤ b.len := by
  unfold isPrefixOf at h
  split at h
  · cases h
  · omega

theorem ofBits_ne_of_len_eq_zero {e : NodeLabel} (he : e.len = 0) (hr : e ≠ NodeLabel.root) (bs : BitStr) :
    ofBits bs ≠ e := by
  rintro rfl
  cases bs with
  | nil => exact hr ofBits_nil
  | cons b bs => cases he

end Akd.NodeLabel
