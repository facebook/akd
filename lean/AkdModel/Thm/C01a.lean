/-
C01 (part a) — "the canonical compressed binary trie over a set of leaves" is well defined:
a well-formed trie is determined by its leaf set, one-at-a-time insertion keeps tries
well-formed and adds exactly the new leaf, and therefore `CRoot.ofLeaves` does not depend on the
order of insertion.  Everything here is on bit strings (`CTrie.lean`); no hashing is involved
except in the last corollary.
-/
import AkdModel.CTrie
import AkdModel.Lemmas.CanonLemmas
import AkdModel.Lemmas.CanonHash
namespace Akd.C01
open Akd

/-- no label is a prefix of (or equal to) another one -/
def PrefixFree (xs : List Leaf) : Prop :=
  xs.Pairwise (fun a b => ¬ a.lbl <+: b.lbl ∧ ¬ b.lbl <+: a.lbl)

/-- a leaf whose label is neither a prefix nor an extension of any leaf label of `t` -/
def Fresh (t : CRoot) (x : Leaf) : Prop :=
  x.lbl ≠ [] ∧ ∀ lf ∈ t.leaves, ¬ x.lbl <+: lf.lbl ∧ ¬ lf.lbl <+: x.lbl

theorem insert1_wf (t : CRoot) (x : Leaf) (hwf : t.WF) (hx : Fresh t x) : (t.insert1 x).WF :=
  (Canon.Root.insert1_spec t x hwf hx.1 hx.2).1

theorem insert1_leaves (t : CRoot) (x : Leaf) (hwf : t.WF) (hx : Fresh t x) :
    (t.insert1 x).leaves.Perm (x :: t.leaves) :=
  (Canon.Root.insert1_spec t x hwf hx.1 hx.2).2

theorem wf_prefixFree (t : CRoot) (hwf : t.WF) : PrefixFree t.leaves :=
  Canon.Root.pairwise hwf

/-- **uniqueness**: two well-formed tries with the same leaves (as multisets) are equal -/
theorem wf_unique (t₁ t₂ : CRoot) (h₁ : t₁.WF) (h₂ : t₂.WF) (hp : t₁.leaves.Perm t₂.leaves) : t₁ = t₂ :=
  Canon.Root.wf_unique t₁ t₂ h₁ h₂ hp

/-- the canonical trie over a prefix-free leaf list: well-formed, with exactly those leaves -/
theorem ofLeaves_spec (xs : List Leaf) (hpf : PrefixFree xs) (hne : ∀ x ∈ xs, x.lbl ≠ []) :
    (CRoot.ofLeaves xs).WF ∧ (CRoot.ofLeaves xs).leaves.Perm xs :=
  Canon.Root.ofLeaves_spec xs hpf hne

/-- … and it does not depend on the order of insertion -/
theorem ofLeaves_perm (xs ys : List Leaf) (hpf : PrefixFree xs) (hne : ∀ x ∈ xs, x.lbl ≠ [])
    (hp : xs.Perm ys) : CRoot.ofLeaves xs = CRoot.ofLeaves ys := by
  have hpf' : PrefixFree ys := (hp.pairwise_iff Canon.Incomp.symm).1 hpf
  have hne' : ∀ x ∈ ys, x.lbl ≠ [] := fun x h => hne x (hp.mem_iff.2 h)
  have sx := ofLeaves_spec xs hpf hne
  have sy := ofLeaves_spec ys hpf' hne'
  exact wf_unique _ _ sx.1 sy.1 ((sx.2.trans hp).trans sy.2.symm)

/-- hence equal leaf sets give equal root hashes, under either configuration -/
theorem rootHash_perm (c : Cfg) (xs ys : List Leaf) (hpf : PrefixFree xs) (hne : ∀ x ∈ xs, x.lbl ≠ [])
    (hp : xs.Perm ys) : (CRoot.ofLeaves xs).rootHash c = (CRoot.ofLeaves ys).rootHash c := by
  rw [ofLeaves_perm xs ys hpf hne hp]

/-- conversely, with a lawful configuration the root hash determines the trie (labels of length ≤ 256):
two well-formed tries with the same root hash are equal -/
theorem rootHash_injective (c : Cfg) (hc : c.Lawful) (t₁ t₂ : CRoot) (h₁ : t₁.WF) (h₂ : t₂.WF)
    (hl₁ : ∀ lf ∈ t₁.leaves, lf.lbl.length ≤ 256) (hl₂ : ∀ lf ∈ t₂.leaves, lf.lbl.length ≤ 256)
    (h : t₁.rootHash c = t₂.rootHash c) : t₁ = t₂ :=
  Canon.Root.value_inj c hc t₁ t₂ h₁ h₂ hl₁ hl₂ (hc.root_inj _ _ h)

/-! non-vacuity -/
example : PrefixFree [⟨[false, false], .raw [1], 1⟩, ⟨[false, true], .raw [2], 1⟩, ⟨[true], .raw [3], 2⟩] := by
  simp [PrefixFree]

end Akd.C01
