/-
C04 — every epoch range can be audited against the published root hashes.

`t` is the trie the storage represents at the latest epoch `E`; the trie published at epoch `i ≤ E`
is the canonical trie over the leaves inserted up to `i` (the tree is append-only).  The audit proof
generated for (s, e) from the LATEST tree — however many epochs follow e — verifies against the
root hashes of epochs s..e.

Hypothesis `hlast`: the tree is empty or some leaf was inserted at an epoch `≥ en`.  In the directory every epoch
`1..latestEpoch` has at least one leaf (`Dir.publish` does not advance the epoch for an empty batch),
which implies `hlast` (`audit_complete_dense`).  `NodeStore.batchInsert` itself does advance
`latestEpoch` on an empty batch; after such an epoch the root's `lastEpoch` stays behind, and
`appendOnlyHelper` returns an EMPTY proof for the whole (non-empty) tree — the code path
`if node.nodeType = .root then ([], [])`.  `audit_counterexample` evaluates such a run: one batch (two leaves,
epoch 1), then two empty batches (latest epoch 3).  The proof generated for the range (1, 2) is EMPTY —
`appendOnlyHelper` sees `root.lastEpoch = 1 ≤ 1` — and the auditor, which rebuilds the empty tree from it, rejects
it against the root hashes published at epochs 1 and 2 (both the hash of the two-leaf tree).
-/
import AkdModel.Lemmas.AuditGenStore
namespace Akd.AGen

def cexStore (c : Cfg) : Except Err (NodeStore × Azks) := do
  let (s, a) ← ({} : NodeStore).azksNew c
  let (s, a) ← s.batchInsert c .directory a
    [(NodeLabel.ofBits [false, false], .raw [1]), (NodeLabel.ofBits [true], .raw [2])]
  let (s, a) ← s.batchInsert c .directory a []
  s.batchInsert c .directory a []

/-- the trie this store represents -/
def cexTree : CRoot := CRoot.ofLeaves [⟨[false, false], .raw [1], 1⟩, ⟨[true], .raw [2], 1⟩]

/-- latest epoch 3; the proof for (1, 2) has no elements; the auditor rejects it -/
def cexCheck (c : Cfg) : Bool :=
  match cexStore c with
  | .error _ => false
  | .ok (s, a) =>
    a.latestEpoch == 3 &&
    match s.appendOnlyProof c a 1 2 with
    | .error _ => false
    | .ok π =>
      π.proofs.all (fun p => p.unchanged.isEmpty && p.inserted.isEmpty) &&
      match Auditor.verify c [hashAt c cexTree 1, hashAt c cexTree 2] π with
      | .error .audit => true
      | _ => false

theorem audit_counterexample : cexCheck Cfg.whatsappV1 = true := by decide +kernel

end Akd.AGen
namespace Akd.C04
open Akd C01

/-- the trie as it was published at epoch `i` -/
def treeAt (t : CRoot) (i : Nat) : CRoot := CRoot.ofLeaves (t.leaves.filter (fun lf => lf.ep ≤ i))

/-- the generated proof: for each epoch `ep` in `st..en-1`, `unchanged` = the maximal sub-tries all of
whose leaves have epoch `≤ ep` (as elements `(label, digest)`), `inserted` = the leaves of epoch
`ep + 1` with their un-epoched values -/
def auditProof (c : Cfg) (t : CRoot) (st en : Nat) : NodeStore.AppendOnlyProof :=
  ⟨AGen.proofsFrom c t st (en - st), AGen.epochsFrom st (en - st)⟩

/-- **the output of proof generation** (characterisation of `appendOnlyHelper` / `appendOnlyProof`) -/
theorem appendOnlyProof_eq (c : Cfg)
    (s : NodeStore) (a : Azks) (t : CRoot)
    (hrep : ReprRoot c .directory s t) (hwf : t.WF)
    (hl : ∀ lf ∈ t.leaves, 1 ≤ lf.lbl.length ∧ lf.lbl.length ≤ 256)
    (hep : ∀ lf ∈ t.leaves, 1 ≤ lf.ep ∧ lf.ep ≤ a.latestEpoch)
    (st en : Nat) (hse : st < en) (hen : en ≤ a.latestEpoch)
    (hlast : t.leaves = [] ∨ ∃ lf ∈ t.leaves, en ≤ lf.ep) :
    s.appendOnlyProof c a st en = .ok (auditProof c t st en) := by
  obtain ⟨root, hroot, hh⟩ := AGen.helper_root c s a.latestEpoch t hwf (fun lf h => (hl lf h).2)
    (fun lf h => (hep lf h).2) ((reprRoot_iff c .directory s t).1 hrep)
  unfold NodeStore.appendOnlyProof
  rw [if_neg (by simp only [Bool.or_eq_true, decide_eq_true_eq]; omega), hroot]
  simp only
  rw [AGen.go_spec c s a root t (en - st) st ⟨[], []⟩]
  · rfl
  · intro e h1 h2
    refine hh e (e + 1) (Nat.le_succ _) (hlast.imp_right fun ⟨lf, hlf, hge⟩ => ?_)
    have := AGen.le_oMax t lf hlf
    omega

/-- **audit completeness** -/
theorem audit_complete (c : Cfg) (hc : c.Lawful) (hce : c.emptyLabel.len = 0)
    (s : NodeStore) (a : Azks) (t : CRoot)
    (hrep : ReprRoot c .directory s t) (hwf : t.WF)
    (hl : ∀ lf ∈ t.leaves, 1 ≤ lf.lbl.length ∧ lf.lbl.length ≤ 256)
    (hep : ∀ lf ∈ t.leaves, 1 ≤ lf.ep ∧ lf.ep ≤ a.latestEpoch)
    (st en : Nat) (hse : st < en) (hen : en ≤ a.latestEpoch)
    (hlast : t.leaves = [] ∨ ∃ lf ∈ t.leaves, en ≤ lf.ep) :
    ∃ π, s.appendOnlyProof c a st en = .ok π ∧
      Auditor.verify c ((List.range (en - st + 1)).map fun i => (treeAt t (st + i)).rootHash c) π = .ok () := by
  have _ := hc
  refine ⟨auditProof c t st en, appendOnlyProof_eq c s a t hrep hwf hl hep st en hse hen hlast, ?_⟩
  rw [Aud.verify_ok]
  simp only [auditProof, AGen.epochsFrom_eq, AGen.proofsFrom_eq]
  refine ⟨by simp, by simp, fun i h₀ h₁ pr ep e0 e1 e2 e3 => ?_⟩
  rw [List.getElem?_eq_some_iff] at e0 e1 e2 e3
  obtain ⟨_, rfl⟩ := e0
  obtain ⟨_, rfl⟩ := e1
  obtain ⟨_, rfl⟩ := e2
  obtain ⟨_, rfl⟩ := e3
  simp only [List.getElem_map, List.getElem_range', List.getElem_range, Nat.one_mul]
  exact AGen.step_accepted c hce t hwf (fun lf h => (hl lf h).2) (st + i)

/-- corollary: in a tree in which every epoch `1..latestEpoch` has a leaf (every directory state) -/
theorem audit_complete_dense (c : Cfg) (hc : c.Lawful) (hce : c.emptyLabel.len = 0)
    (s : NodeStore) (a : Azks) (t : CRoot)
    (hrep : ReprRoot c .directory s t) (hwf : t.WF)
    (hl : ∀ lf ∈ t.leaves, 1 ≤ lf.lbl.length ∧ lf.lbl.length ≤ 256)
    (hep : ∀ lf ∈ t.leaves, 1 ≤ lf.ep ∧ lf.ep ≤ a.latestEpoch)
    (hdense : ∀ ep, 1 ≤ ep → ep ≤ a.latestEpoch → ∃ lf ∈ t.leaves, lf.ep = ep)
    (st en : Nat) (hse : st < en) (hen : en ≤ a.latestEpoch) :
    ∃ π, s.appendOnlyProof c a st en = .ok π ∧
      Auditor.verify c ((List.range (en - st + 1)).map fun i => (treeAt t (st + i)).rootHash c) π = .ok () := by
  obtain ⟨lf, hlf, he⟩ := hdense en (by omega) hen
  exact audit_complete c hc hce s a t hrep hwf hl hep st en hse hen (.inr ⟨lf, hlf, by omega⟩)

/-- the run that `hlast` excludes, evaluated: the run succeeds with latest epoch 3, the generated proof has no
elements, `Auditor.verify` answers `.error .audit`; that the store represents `AGen.cexTree` is not part of the
statement.  (`Dir.publish` never produces this state: it does not call `batchInsert` for a batch that yields no
elements.) -/
theorem audit_counterexample : AGen.cexCheck Cfg.whatsappV1 = true := AGen.audit_counterexample

theorem audit_eq (c : Cfg) (d : Dir) (a : Azks) (ha : d.azks = some a) (st en : Nat) :
    d.audit c st en =
      if st ≥ en then .error .invalidEpoch
      else if a.latestEpoch < en then .error .invalidEpoch
      else Dir.liftT (d.nodes.appendOnlyProof c a st en) := by
  unfold Dir.audit
  simp only [ha, bind, Except.bind, throw, throwThe, MonadExceptOf.throw]

/-- `Dir.audit` refuses `st ≥ en` and `en` beyond the latest epoch -/
theorem audit_refused (c : Cfg) (d : Dir) (st en : Nat) (a : Azks) (ha : d.azks = some a)
    (h : st ≥ en ∨ en > a.latestEpoch) : ∃ e, d.audit c st en = .error e := by
  rw [audit_eq c d a ha]
  by_cases h1 : st ≥ en
  · exact ⟨_, if_pos h1⟩
  · rw [if_neg h1, if_pos (show a.latestEpoch < en by omega)]
    exact ⟨_, rfl⟩

end Akd.C04
