/-
C01 (part c) — end to end: after ANY sequence of publish calls the directory's epoch equals the
number of effective publishes and its root hash is the hash of the canonical trie over exactly the
leaves the history calls for (`Spec.lean`): one fresh leaf per (label, version) with the value
commitment and the epoch of that update, one stale leaf per superseded version with the epoch in
which it was superseded.  Re-submissions change nothing; a batch that repeats a label is rejected.

Composition of: `Dir.publish` (the model of `directory.rs:110-284`), the refinement theorem
`batchInsert_refines` (C01b), and order-independence of the canonical trie (C01a).
-/
import AkdModel.Dir
import AkdModel.Spec
import AkdModel.Thm.C01b
import AkdModel.Thm.C06
import AkdModel.Lemmas.PublishStore
import AkdModel.Lemmas.PublishDerive
namespace Akd.C01
open Akd

/-- the oracle table answers every query the histories in play can make: both freshness values and
every version up to `N` for the labels in `users` -/
def VrfTotal (vrf : VrfTable) (users : List Bytes) (N : Nat) : Prop :=
  ∀ u ∈ users, ∀ f v, 1 ≤ v → v ≤ N → (vrf.get? ⟨u, f, v⟩).isSome

/-- the directory state represents the specification state -/
structure Refines (c : Cfg) (d : Dir) (sp : Spec.State) : Prop where
  azks : ∃ n, d.azks = some ⟨sp.epoch, n⟩
  idle : d.nodes.inTxn = false ∧ d.nodes.log = []
  tree : ReprRoot c .directory d.nodes (CRoot.ofLeaves (Spec.leaves c d.commitmentKey d.vrf sp.table))
  states : StatesMatch d sp
  versions : ∀ u, C06.VersionsOK (sp.table.get u) ∧ ∀ v ∈ sp.table.get u, 1 ≤ v.epoch ∧ v.epoch ≤ sp.epoch
  keys : sp.table.Pairwise (fun a b => a.1 ≠ b.1)

theorem Refines.tableOK {c : Cfg} {d : Dir} {sp : Spec.State} (h : Refines c d sp) : Pub.TableOK sp.table sp.epoch :=
  ⟨h.keys, fun u => (h.versions u).1, fun u => (h.versions u).2⟩

theorem init_refines (c : Cfg) (vrf : VrfTable) (key : Dig) :
    ∃ d, Dir.init c { vrf := vrf, commitmentKey := key } = .ok d ∧ Refines c d {} := by
  obtain ⟨s', h1, h2⟩ := azksNew_repr c .directory ({} : NodeStore)
  refine ⟨{ nodes := s', azks := some ⟨0, 1⟩, vrf := vrf, commitmentKey := key }, by simp only [Dir.init, h1],
    ⟨1, rfl⟩, ?_, h2, ⟨nofun, nofun, .nil⟩, fun u => ⟨Pub.versOK_nil, nofun⟩, .nil⟩
  cases h1
  exact ⟨rfl, rfl⟩

theorem init_fields {c : Cfg} {d d0 : Dir} (h : Dir.init c d = .ok d0) : d.vrf = d0.vrf ∧ d.commitmentKey = d0.commitmentKey := by
  unfold Dir.init at h
  split at h
  · cases h; exact ⟨rfl, rfl⟩
  · split at h <;> cases h
    exact ⟨rfl, rfl⟩

theorem publish_dup (c : Cfg) (d : Dir) (b : List (Bytes × Bytes)) (h : (b.map (·.1)).eraseDups.length ≠ b.length) :
    d.publish c b = .error .duplicate := by
  rw [Dir.publish_eq, if_pos h]

/-- **one publish**, taken apart: a batch without a repeated label either changes nothing, or the elements `els`
derived from it are inserted into the tree of `sp` inside one transaction, which gives the tree of the new
specification state, and the states of the changes are appended -/
theorem publish_cases (c : Cfg) (hc : c.emptyLabel.len = 0) (d : Dir) (sp : Spec.State)
    (users : List Bytes) (N : Nat)
    (hv : C06.VrfOK d.vrf) (ht : VrfTotal d.vrf users N) (hN : sp.epoch + 2 ≤ N)
    (href : Refines c d sp) (b : List (Bytes × Bytes)) (hb : ∀ x ∈ b, x.1 ∈ users)
    (hnd0 : (b.map (·.1)).eraseDups.length = b.length) :
    (Spec.applyBatch sp b = sp ∧
      d.publish c b = .ok (d, sp.epoch, Spec.rootHash c d.commitmentKey d.vrf sp)) ∨
    ∃ n els s' n' extra,
      (Spec.applyBatch sp b).epoch = sp.epoch + 1 ∧ d.azks = some ⟨sp.epoch, n⟩ ∧
      PrefixFree ((CRoot.ofLeaves (Spec.leaves c d.commitmentKey d.vrf sp.table)).leaves ++
        newLeaves els (sp.epoch + 1)) ∧
      (∀ lf ∈ (CRoot.ofLeaves (Spec.leaves c d.commitmentKey d.vrf sp.table)).leaves ++ newLeaves els (sp.epoch + 1),
        1 ≤ lf.lbl.length ∧ lf.lbl.length ≤ 256) ∧
      (newLeaves els (sp.epoch + 1)).foldl CRoot.insert1
          (CRoot.ofLeaves (Spec.leaves c d.commitmentKey d.vrf sp.table)) =
        CRoot.ofLeaves (Spec.leaves c d.commitmentKey d.vrf (Spec.applyBatch sp b).table) ∧
      d.nodes.begin.batchInsert c .directory ⟨sp.epoch, n⟩ (els.map fun x => (NodeLabel.ofBits x.1, x.2))
        = .ok (s', ⟨sp.epoch + 1, n'⟩) ∧
      (∀ x ∈ extra, x.epoch = sp.epoch + 1) ∧
      d.publish c b = .ok ({ d with nodes := s'.commit, azks := some ⟨sp.epoch + 1, n'⟩, states := d.states ++ extra },
        sp.epoch + 1, Spec.rootHash c d.commitmentKey d.vrf (Spec.applyBatch sp b)) ∧
      Refines c { d with nodes := s'.commit, azks := some ⟨sp.epoch + 1, n'⟩, states := d.states ++ extra }
        (Spec.applyBatch sp b) := by
  obtain ⟨n, hazks⟩ := href.azks
  have hT := href.tableOK
  obtain ⟨hwf, _, hbd⟩ := Pub.leafTree hv c d.commitmentKey hT
  have htot : ∀ x ∈ b, ∀ f ver, 1 ≤ ver → ver ≤ (sp.table.get x.1).length + 1 →
      (d.vrf.get? ⟨x.1, f, ver⟩).isSome := fun x hx f ver h1 h2 =>
    ht x.1 (hb x hx) f ver h1 (by have := hT.length_le x.1; omega)
  obtain ⟨els, hder, hnl, hemp⟩ := Pub.derive_spec c d sp href.states hT hv.len b htot
  generalize hr : d.publish c b = r
  rw [Dir.publish_eq, if_neg (fun h => h hnd0), hazks] at hr
  simp only [hder, Dir.treeStep, bind, Except.bind, pure, Except.pure] at hr
  rcases Pub.applyBatch_cases sp b with ⟨hch, happ⟩ | ⟨hndch, hch, happ⟩
  · -- nothing changes
    have hch := hch.resolve_left (fun h => h hnd0)
    have hroot := rootHash_of_reprRoot c .directory d.nodes _ sp.epoch n href.tree (fun lf hlf => (hbd lf hlf).2.2)
    rw [hemp.2 hch] at hr
    simp only [List.map_nil, List.isEmpty_nil, if_true, hroot, Dir.liftT] at hr
    exact .inl ⟨happ, hr.symm⟩
  · -- an effective batch: the tree over the new table is the old one with the derived elements inserted
    rw [happ]
    have hT' := Pub.tableOK_fold hT _ hndch
    obtain ⟨hpf, hlen, htree⟩ := Pub.ofLeaves_insert els (sp.epoch + 1)
      (Pub.prefixFree_leaves hv c d.commitmentKey _ hT'.keys hT'.vers)
      (Pub.leaves_len hv c d.commitmentKey _)
      (by rw [hnl]; exact Pub.leaves_fold c d.commitmentKey d.vrf _ _ _ hndch (fun x _ => hT.vers x.1))
    obtain ⟨s', n', hrun, _, hrepc⟩ := Pub.txn_refines c hc .directory d.nodes ⟨sp.epoch, n⟩ _ href.idle href.tree hwf
      (fun lf hlf => (hbd lf hlf).2) els hpf hlen
    rw [htree] at hrepc
    have hroot := rootHash_of_reprRoot c .directory s'.commit _ (sp.epoch + 1) n' hrepc
      (fun lf hlf => ((Pub.leafTree hv c d.commitmentKey hT').2.2 lf hlf).2.2)
    obtain ⟨hst, hsm⟩ := Pub.states_fold d sp hT href.states _ hndch
      (fun x hx => htot x (List.mem_filter.1 hx).1 true _ (by omega) (Nat.le_refl _))
    have hemp' : (els.map fun x => (NodeLabel.ofBits x.1, x.2)).isEmpty = false := by
      cases els with
      | nil => exact absurd (hemp.1 rfl) hch
      | cons _ _ => rfl
    simp only [hemp', Bool.false_eq_true, if_false, href.idle.1, hrun, Dir.liftT, hroot, hst] at hr
    rw [if_neg (fun h => h rfl)] at hr
    exact .inr ⟨n, els, s', n', _, rfl, hazks, hpf, hlen, htree, hrun,
      fun x hx => by obtain ⟨y, _, rfl⟩ := List.mem_map.1 hx; rfl, hr.symm,
      ⟨n', rfl⟩, ⟨rfl, rfl⟩, hrepc, hsm, fun u => ⟨hT'.vers u, hT'.eps u⟩, hT'.keys⟩

set_option linter.unusedVariables false in
/-- **one publish**: the model of `publish` follows the specification, whatever the batch -/
theorem publish_refines (c : Cfg) (hc : c.emptyLabel.len = 0) (d : Dir) (sp : Spec.State)
    (users : List Bytes) (N : Nat)
    (hv : C06.VrfOK d.vrf) (ht : VrfTotal d.vrf users N) (hN : sp.epoch + 2 ≤ N)
    (href : Refines c d sp) (b : List (Bytes × Bytes)) (hb : ∀ x ∈ b, x.1 ∈ users)
    (hu : ∀ x ∈ sp.table, x.1 ∈ users) :
    let sp' := Spec.applyBatch sp b
    ((b.map (·.1)).eraseDups.length ≠ b.length → (∃ e, d.publish c b = .error e) ∧ sp' = sp) ∧
    ((b.map (·.1)).eraseDups.length = b.length →
      ∃ d', d.publish c b = .ok (d', sp'.epoch, Spec.rootHash c d.commitmentKey d.vrf sp') ∧
        Refines c d' sp' ∧ d'.vrf = d.vrf ∧ d'.commitmentKey = d.commitmentKey ∧
        (sp' = sp → d' = d)) := by
  refine ⟨fun hdup => ⟨⟨_, publish_dup c d b hdup⟩, Pub.applyBatch_dup sp b hdup⟩, fun hnd0 => ?_⟩
  · rcases publish_cases c hc d sp users N hv ht hN href b hb hnd0 with
      ⟨hsp, hpub⟩ | ⟨_, _, _, _, _, hep, _, _, _, _, _, _, hpub, href'⟩
    · simp only [hsp]
      exact ⟨d, hpub, href, rfl, rfl, fun _ => rfl⟩
    · refine ⟨_, hep ▸ hpub, href', rfl, rfl, fun h => ?_⟩
      rw [h] at hep
      omega

/-- fold of publish over a history, ignoring rejected batches (the caller sees the error) -/
def runDir (c : Cfg) (d : Dir) : List (List (Bytes × Bytes)) → Dir
  | [] => d
  | b :: rest => match d.publish c b with
    | .ok (d', _, _) => runDir c d' rest
    | .error _ => runDir c d rest

theorem epochHash_of_refines (c : Cfg) (d : Dir) (sp : Spec.State) (hv : C06.VrfOK d.vrf) (href : Refines c d sp) :
    d.epochHash c = .ok (sp.epoch, Spec.rootHash c d.commitmentKey d.vrf sp) := by
  obtain ⟨n, hazks⟩ := href.azks
  have hroot := rootHash_of_reprRoot c .directory d.nodes _ sp.epoch n href.tree
    (fun lf hlf => ((Pub.leafTree hv c d.commitmentKey href.tableOK).2.2 lf hlf).2.2)
  unfold Dir.epochHash
  simp only [bind, Except.bind, pure, Except.pure, hazks, hroot, Dir.liftT]
  rfl

theorem runDir_refines (c : Cfg) (hc : c.emptyLabel.len = 0) (users : List Bytes) (N : Nat) :
    ∀ (h : List (List (Bytes × Bytes))) (d : Dir) (sp : Spec.State),
      C06.VrfOK d.vrf → VrfTotal d.vrf users N → sp.epoch + h.length + 1 ≤ N → Refines c d sp →
      (∀ b ∈ h, ∀ x ∈ b, x.1 ∈ users) →
      Refines c (runDir c d h) (h.foldl Spec.applyBatch sp) ∧ (runDir c d h).vrf = d.vrf ∧
        (runDir c d h).commitmentKey = d.commitmentKey
  | [], d, sp, _, _, _, href, _ => ⟨href, rfl, rfl⟩
  | b :: rest, d, sp, hv, ht, hN, href, hb => by
    simp only [List.length_cons] at hN
    have hN' : sp.epoch + rest.length + 1 ≤ N := by omega
    have hb' : ∀ b' ∈ rest, ∀ x ∈ b', x.1 ∈ users := fun b' hb'' => hb b' (List.mem_cons_of_mem _ hb'')
    rw [List.foldl_cons]
    by_cases hdup : (b.map (·.1)).eraseDups.length = b.length
    · rcases publish_cases c hc d sp users N hv ht (by omega) href b (hb b List.mem_cons_self) hdup with
        ⟨hsp, hpub⟩ | ⟨_, _, _, _, _, hep, _, _, _, _, _, _, hpub, href'⟩
      · simp only [runDir, hpub, hsp]
        exact runDir_refines c hc users N rest d sp hv ht hN' href hb'
      · simp only [runDir, hpub]
        exact runDir_refines c hc users N rest _ _ hv ht (by omega) href' hb'
    · simp only [runDir, publish_dup c d b hdup, Pub.applyBatch_dup sp b hdup]
      exact runDir_refines c hc users N rest d sp hv ht hN' href hb'

theorem run_refines (c : Cfg) (hc : c.emptyLabel.len = 0) (vrf : VrfTable) (key : Dig)
    (users : List Bytes) (h : List (List (Bytes × Bytes)))
    (hv : C06.VrfOK vrf) (ht : VrfTotal vrf users (h.length + 2))
    (hb : ∀ b ∈ h, ∀ x ∈ b, x.1 ∈ users) :
    ∃ d0, Dir.init c { vrf := vrf, commitmentKey := key } = .ok d0 ∧ Refines c (runDir c d0 h) (Spec.run h) ∧
      (runDir c d0 h).vrf = vrf ∧ (runDir c d0 h).commitmentKey = key := by
  obtain ⟨d0, hinit, href0⟩ := init_refines c vrf key
  obtain ⟨rfl, rfl⟩ := init_fields hinit
  exact ⟨d0, hinit, runDir_refines c hc users (h.length + 2) h d0 {} hv ht
    (by show 0 + h.length + 1 ≤ h.length + 2; omega) href0 hb⟩

/-- **every history**: epoch = number of effective publishes, root hash = canonical root over the
specification's leaves, at the end of any sequence of batches -/
theorem history_refines (c : Cfg) (hc : c.emptyLabel.len = 0) (vrf : VrfTable) (key : Dig)
    (users : List Bytes) (h : List (List (Bytes × Bytes)))
    (hv : C06.VrfOK vrf) (ht : VrfTotal vrf users (h.length + 2))
    (hb : ∀ b ∈ h, ∀ x ∈ b, x.1 ∈ users) :
    ∃ d0, Dir.init c { vrf := vrf, commitmentKey := key } = .ok d0 ∧
      Refines c (runDir c d0 h) (Spec.run h) ∧
      (runDir c d0 h).epochHash c = .ok ((Spec.run h).epoch, Spec.rootHash c key vrf (Spec.run h)) := by
  obtain ⟨d0, hinit, hr, h1, h2⟩ := run_refines c hc vrf key users h hv ht hb
  refine ⟨d0, hinit, hr, ?_⟩
  have := epochHash_of_refines c _ _ (h1.symm ▸ hv) hr
  rwa [h1, h2] at this

theorem honestFor_of_refines (c : Cfg) (d : Dir) (sp : Spec.State) (hv : C06.VrfOK d.vrf)
    (users : List Bytes) (N : Nat) (ht : VrfTotal d.vrf users N) (hN : sp.epoch + 1 ≤ N)
    (href : Refines c d sp) (u : Bytes) (hmem : u ∈ users) :
    C06.HonestFor c d.commitmentKey d.vrf (CRoot.ofLeaves (Spec.leaves c d.commitmentKey d.vrf sp.table)) u
      (sp.table.get u) := by
  refine Pub.honestFor_leaves hv c d.commitmentKey href.tableOK u fun v hvm => ?_
  have hver := C06.VersionsOK.version_le (href.tableOK.vers u) hvm
  exact ht u hmem true v.version hver.1
    (Nat.le_trans hver.2 (Nat.le_trans (href.tableOK.length_le u) (Nat.le_of_succ_le hN)))

set_option linter.unusedVariables false in  -- `hc` and `hu` are not used
/-- the tree of the represented state is honest for every label in the sense of C06/C07 -/
theorem refines_honest (c : Cfg) (hc : c.Lawful) (d : Dir) (sp : Spec.State) (hv : C06.VrfOK d.vrf)
    (users : List Bytes) (N : Nat) (ht : VrfTotal d.vrf users N) (hN : sp.epoch + 1 ≤ N)
    (hu : ∀ x ∈ sp.table, x.1 ∈ users)
    (href : Refines c d sp) (u : Bytes) (hmem : u ∈ users) :
    C06.HonestFor c d.commitmentKey d.vrf (CRoot.ofLeaves (Spec.leaves c d.commitmentKey d.vrf sp.table)) u
      (sp.table.get u) :=
  honestFor_of_refines c d sp hv users N ht hN href u hmem

def exU : Bytes := [1]
def exLab (b : UInt8) : NodeLabel := ⟨Vector.replicate 32 b, 256⟩
def exVrf : VrfTable :=
  [(⟨exU, true, 1⟩, exLab 1), (⟨exU, false, 1⟩, exLab 2), (⟨exU, true, 2⟩, exLab 3), (⟨exU, false, 2⟩, exLab 4),
   (⟨exU, true, 3⟩, exLab 5), (⟨exU, false, 3⟩, exLab 6), (⟨exU, true, 4⟩, exLab 7), (⟨exU, false, 4⟩, exLab 8)]

theorem exVrf_ok : C06.VrfOK exVrf :=
  -- the first byte of a label of the table tells its claim
  have key : ∀ x ∈ exVrf, x.1 = ⟨exU, x.2.val[0] % 2 == 1, (x.2.val[0].toNat + 1) / 2⟩ ∧ x.2.len = 256 := by decide
  ⟨fun _ _ _ h1 h2 => (key _ (C06.mem_of_get? h1)).1.trans (key _ (C06.mem_of_get? h2)).1.symm,
    fun _ _ h => (key _ (C06.mem_of_get? h)).2⟩

theorem exVrf_total : VrfTotal exVrf [exU] 4 := by
  intro u hu f v h1 h2
  simp only [List.mem_singleton] at hu
  subst hu
  have : v = 1 ∨ v = 2 ∨ v = 3 ∨ v = 4 := by omega
  rcases this with rfl | rfl | rfl | rfl <;> cases f <;> decide

/-- non-vacuity: the hypotheses of `history_refines` hold for a two-batch history of one label -/
example (c : Cfg) (hc : c.emptyLabel.len = 0) (key : Dig) :
    ∃ d0, Dir.init c { vrf := exVrf, commitmentKey := key } = .ok d0 ∧
      Refines c (runDir c d0 [[(exU, [9])], [(exU, [8])]]) (Spec.run [[(exU, [9])], [(exU, [8])]]) ∧
      (Spec.run [[(exU, [9])], [(exU, [8])]]).epoch = 2 :=
  let ⟨d0, h1, h2, _⟩ := history_refines c hc exVrf key [exU] [[(exU, [9])], [(exU, [8])]] exVrf_ok exVrf_total
    (by decide)
  ⟨d0, h1, h2, by decide⟩

end Akd.C01

/-! ## the tree of `C06.Ex` is the canonical tree over the leaf set of a one-label table -/
namespace Akd.C06.Ex
open Akd NodeLabel

theorem tableOK : Pub.TableOK [(u, vs)] 3 := by
  refine ⟨List.pairwise_singleton _ _, fun u' => ?_, fun u' => ?_⟩
  · simp only [Spec.Table.get]
    split
    · exact ⟨by decide, by decide⟩
    · exact Pub.versOK_nil
  · simp only [Spec.Table.get]
    split
    · decide
    · nofun

theorem wf : t.WF := (Pub.leafTree vrfOK cfg key tableOK).1

theorem leaves256 : C05.Leaves256 t := fun lf h => ((Pub.leafTree vrfOK cfg key tableOK).2.2 lf h).1

theorem honest : HonestFor cfg key vrf t u vs :=
  Pub.honestFor_leaves vrfOK cfg key tableOK u (by decide)

end Akd.C06.Ex
