/-
C11, request level — "a second directory instance opened on that storage reports the previous epoch and root hash,
its lookup, history and audit proofs verify against it, and values of the unfinished epoch are invisible".

`Thm/C11.lean` proves the node-level fact: whatever part `W` of a commit's node records has reached the database,
every key reads, as of the previous epoch, as before (`partial_commit_invisible_all`), and keys that are new in this
epoch read as "not found" (`new_keys_invisible`).  Here that is lifted to the requests: every proof generator reads
the store only through `getNode · epoch` and never looks at the `parent` field (`reads_congr`: the walk of
`Lemmas/LagReads.lean`, both ways), hence a directory instance on the partially written database answers every request
exactly as the instance before the publish did.
-/
import AkdModel.Thm.C11
import AkdModel.Dir
import AkdModel.Lemmas.PartialRequests
namespace Akd.C11
open Akd C01

/-- **the generators read the store only through `getNode · epoch`, modulo `parent`** -/
theorem reads_congr (c : Cfg) (s s' : NodeStore) (a : Azks)
    (hview : ∀ k, readAt s' a.latestEpoch k = readAt s a.latestEpoch k) :
    s'.rootHash c a = s.rootHash c a ∧
    (∀ l, s'.membershipProof c a l = s.membershipProof c a l) ∧
    (∀ l, s'.nonMembershipProof c a l = s.nonMembershipProof c a l) := by
  obtain ⟨h, h'⟩ := C13.viewLe_of_eq hview
  exact ⟨(Lag.rootHash_le c a h).antisymm (Lag.rootHash_le c a h'),
    fun l => (Lag.membershipProof_le c a h l).antisymm (Lag.membershipProof_le c a h' l),
    fun l => (Lag.nonMembershipProof_le c a h l).antisymm (Lag.nonMembershipProof_le c a h' l)⟩

/-- the same for the append-only proof of any range that ends at or before the epoch (the walk reads every node as of
`a.latestEpoch` and decides by the epochs stored in the nodes) -/
theorem audit_congr (c : Cfg) (s s' : NodeStore) (a : Azks)
    (hview : ∀ k, readAt s' a.latestEpoch k = readAt s a.latestEpoch k) (s0 e0 : Nat) :
    s'.appendOnlyProof c a s0 e0 = s.appendOnlyProof c a s0 e0 := by
  obtain ⟨h, h'⟩ := C13.viewLe_of_eq hview
  exact (Lag.appendOnlyProof_le c a h s0 e0).antisymm (Lag.appendOnlyProof_le c a h' s0 e0)

/-- the database a reader finds when the node records `W` of the commit have reached it (no transaction of its own) -/
def partialStore (s : NodeStore) (W : List NodeRec) : NodeStore :=
  { db := applyWrites s.db W, log := [], inTxn := false }

/-- node level, every key: as of the previous epoch the partially written database reads as the old one -/
theorem partial_commit_reads (c : Cfg) (hc : c.emptyLabel.len = 0)
    (s : NodeStore) (a : Azks) (t : CRoot)
    (hidle : s.inTxn = false ∧ s.log = [])
    (hrep : ReprRoot c .directory s t) (hwf : t.WF)
    (hat : AtEpoch s.db a.latestEpoch) (hkeyed : WellKeyed s.db)
    (hdom : ∀ k, (s.db.get? k).isSome → k ∈ nodeKeys t)
    (hep : ∀ lf ∈ t.leaves, 1 ≤ lf.ep ∧ lf.ep ≤ a.latestEpoch)
    (els : List (BitStr × Dig))
    (hpf : PrefixFree (t.leaves ++ newLeaves els (a.latestEpoch + 1)))
    (hlen : ∀ lf ∈ t.leaves ++ newLeaves els (a.latestEpoch + 1), 1 ≤ lf.lbl.length ∧ lf.lbl.length ≤ 256)
    (s' : NodeStore) (a' : Azks)
    (hins : s.begin.batchInsert c .directory a (els.map fun x => (NodeLabel.ofBits x.1, x.2)) = .ok (s', a'))
    (W : List NodeRec) (hW : ∀ r ∈ W, ∃ k, s'.log.get? k = some r) :
    ∀ k, readAt (partialStore s W) a.latestEpoch k = readAt s a.latestEpoch k := by
  intro k
  have hlog := Pub.logOK_batchInsert hins (Pub.logOK_begin s hidle.2)
  exact (Part.mixed_view c hc s a t hidle hrep hwf hat hkeyed hdom hep els hpf hlen s' a' hins _
    (Part.mixed_writes hlog s.db W hW) _ (Nat.le_refl _) k).resolve_right fun h => Nat.lt_irrefl _ h.1

/-- **request level**: a directory instance opened on the partially written storage — the old epoch record, any part
`W` of the commit's node records, and any value states of the unfinished epoch — answers the epoch hash and every
lookup, key-history and audit request exactly as the instance before the publish did -/
theorem partial_commit_requests (c : Cfg) (hc : c.emptyLabel.len = 0)
    (d d' : Dir) (a : Azks) (t : CRoot)
    (hazks : d.azks = some a)
    (hidle : d.nodes.inTxn = false ∧ d.nodes.log = [])
    (hrep : ReprRoot c .directory d.nodes t) (hwf : t.WF)
    (hat : AtEpoch d.nodes.db a.latestEpoch) (hkeyed : WellKeyed d.nodes.db)
    (hdom : ∀ k, (d.nodes.db.get? k).isSome → k ∈ nodeKeys t)
    (hep : ∀ lf ∈ t.leaves, 1 ≤ lf.ep ∧ lf.ep ≤ a.latestEpoch)
    (hstates : ∀ x ∈ d.states, x.epoch ≤ a.latestEpoch)
    (els : List (BitStr × Dig))
    (hpf : PrefixFree (t.leaves ++ newLeaves els (a.latestEpoch + 1)))
    (hlen : ∀ lf ∈ t.leaves ++ newLeaves els (a.latestEpoch + 1), 1 ≤ lf.lbl.length ∧ lf.lbl.length ≤ 256)
    (s' : NodeStore) (a' : Azks)
    (hins : d.nodes.begin.batchInsert c .directory a (els.map fun x => (NodeLabel.ofBits x.1, x.2)) = .ok (s', a'))
    (W : List NodeRec) (hW : ∀ r ∈ W, ∃ k, s'.log.get? k = some r)
    (extra : List ValueState) (hextra : ∀ x ∈ extra, x.epoch = a.latestEpoch + 1)
    (hd' : d' = { d with nodes := partialStore d.nodes W, states := d.states ++ extra }) :
    d'.epochHash c = d.epochHash c ∧
    (∀ u, d'.lookup c u = d.lookup c u) ∧
    (∀ u p, d'.keyHistory c u p = d.keyHistory c u p) ∧
    (∀ s0 e0, d'.audit c s0 e0 = d.audit c s0 e0) := by
  have hv := partial_commit_reads c hc d.nodes a t hidle hrep hwf hat hkeyed hdom hep els hpf hlen s' a' hins W hW
  obtain ⟨hr, hm, hn⟩ := reads_congr c d.nodes (partialStore d.nodes W) a hv
  have ha := audit_congr c d.nodes (partialStore d.nodes W) a hv
  obtain ⟨nodes, azks, states, vrf, ck⟩ := d
  simp only at hazks
  subst hazks
  subst hd'
  exact Part.requests_congr c nodes _ a states extra vrf ck hr hm hn ha fun x hx => by rw [hextra x hx]; omega

end Akd.C11
