/-
C05 — tree membership and non-membership proofs are sound and complete.

`t` is any well-formed trie (`CRoot.WF`) whose leaves all have 256-bit labels; by
`Thm/C01a.lean` (`wf_unique`) that is the canonical trie over its leaf set.  `π` ranges over
EVERY proof value, not only those a generator can produce.
-/
import AkdModel.CTrie
import AkdModel.Thm.C17
import AkdModel.Lemmas.TrieLemmas
import AkdModel.Lemmas.TrieLabel
namespace Akd.C05
open Akd

/-- everything a membership proof may legitimately speak about: the root, every node, and the
empty child slots of the root -/
def CTree.elements (c : Cfg) : CTree → List AzksElement
  | .leaf q v e => [(CTree.leaf q v e).element c]
  | .node q l r => (CTree.node q l r).element c :: (elements c l ++ elements c r)

def elements (c : Cfg) (t : CRoot) : List AzksElement :=
  ⟨NodeLabel.root, t.value c .withLeafEpoch⟩
    :: (CRoot.element c t.l :: CRoot.element c t.r
        :: ((t.l.map (CTree.elements c)).getD [] ++ (t.r.map (CTree.elements c)).getD []))

def Leaves256 (t : CRoot) : Prop := ∀ lf ∈ t.leaves, lf.lbl.length = 256

/-- the hypothesis of the two non-membership theorems on the configuration: the "empty label" marker
is not the label of any bit string.  `Cfg.Lawful` only speaks about the hash functions, but
`verify_nonmembership` treats a child whose label equals `empty_label()` as an empty slot; with a
marker that collides with a real label both theorems are false (checked counterexamples at the end
of this file).  Both real configurations satisfy it (`emptyLabelFresh_whatsappV1`,
`emptyLabelFresh_experimental`): their marker has length 0 and non-zero bytes. -/
def EmptyLabelFresh (c : Cfg) : Prop :=
  ∀ bs : BitStr, bs.length ≤ 256 → NodeLabel.ofBits bs ≠ c.emptyLabel

theorem emptyLabelFresh_whatsappV1 : EmptyLabelFresh Cfg.whatsappV1 :=
  fun bs _ => NodeLabel.ofBits_ne_of_len_eq_zero rfl (by decide +kernel) bs

theorem emptyLabelFresh_experimental : EmptyLabelFresh Cfg.experimental :=
  fun bs _ => NodeLabel.ofBits_ne_of_len_eq_zero rfl (by decide +kernel) bs

theorem CTree.sub_mem_elements (c : Cfg) {s a : CTree} (h : CTree.Sub s a) :
    s.element c ∈ CTree.elements c a := by
  induction h with
  | refl => cases s <;> simp [CTree.elements]
  | left q r _ ih => simp [CTree.elements, ih]
  | right q l _ ih => simp [CTree.elements, ih]

theorem mem_elements_of_cases (c : Cfg) (t : CRoot) (π : MembershipProof)
    (h : (π.label = NodeLabel.root ∧ π.hashVal = t.value c .withLeafEpoch) ∨
      (∃ o, (o = t.l ∨ o = t.r) ∧
        ((o = none ∧ π.label = c.emptyLabel ∧ π.hashVal = c.emptyNodeHash) ∨
         (∃ a s, o = some a ∧ CTree.Sub s a ∧ π.label = NodeLabel.ofBits s.lbl ∧
            π.hashVal = s.azks c .withLeafEpoch)))) :
    (⟨π.label, π.hashVal⟩ : AzksElement) ∈ elements c t := by
  rcases h with ⟨h1, h2⟩ | ⟨o, ho, ⟨rfl, h1, h2⟩ | ⟨a, s, rfl, hs, h1, h2⟩⟩ <;> rw [h1, h2]
  · exact List.mem_cons_self
  · rcases ho with ho | ho <;> simp [elements, ← ho, CRoot.element, CRoot.childLabel, CRoot.childValue]
  · have := CTree.sub_mem_elements c hs
    rw [CTree.element] at this
    rcases ho with ho | ho <;> simp [elements, ← ho, this]

theorem root_value_ne_leaf (c : Cfg) (hc : c.Lawful) (t : CRoot) (v : Dig) (e : Nat) :
    t.value c .withLeafEpoch ≠ c.leafHash v e := by
  rcases CRoot.not_empty_cases t with he | he
  · rw [CRoot.value_empty c _ t he]; exact (hc.leaf_ne_emptyRoot v e).symm
  · rw [CRoot.value_eq_parent c _ t he]; exact (hc.leaf_ne_parent _ _ _ _ _ _).symm

/-- the generated proof verifies, for every tree and every query label -/
theorem membership_complete (c : Cfg) (t : CRoot) (x : BitStr) :
    verifyMembership c (t.rootHash c) (t.genMembership c x) = true :=
  CRoot.verifyMembership_lcpProof c t x

/-- for a member the generated proof is about that leaf and carries its true digest -/
theorem membership_complete_leaf (c : Cfg) (t : CRoot) (hwf : t.WF) (lf : Leaf) (h : lf ∈ t.leaves) :
    (t.genMembership c lf.lbl).label = NodeLabel.ofBits lf.lbl ∧
    (t.genMembership c lf.lbl).hashVal = c.leafHash lf.value lf.ep := by
  obtain ⟨a, ha, hl⟩ := CRoot.mem_leaves.mp h
  have hp := Canon.Tree.lbl_prefix (hwf.child ha) lf hl
  -- the walk enters the child that holds `lf` and ends at `lf`
  rcases CRoot.path_fst c t hwf lf.lbl with ⟨-, hn⟩ | ⟨a', ha', hp', he⟩
  · exact absurd hp (hn a ha)
  · cases hwf.child_unique ha ha' hp hp'
    rw [CTree.path_leaf c (hwf.child ha) hl] at he
    rw [CRoot.genMembership, CRoot.lcpProof_some c t _ he]
    exact ⟨rfl, rfl⟩

/-- for a non-member the generated non-membership proof verifies.

Two hypotheses are needed (counterexamples at the end of the file); lawfulness of `c` is not used:
* `hE : EmptyLabelFresh c` — see `EmptyLabelFresh`;
* `hne : t ≠ CRoot.empty` — for the empty tree the root stores `empty_root_value`, which is not
  the parent hash of two empty slots that `verify_nonmembership` recomputes, so the generated
  proof is rejected (`nonmembership_complete_fails_empty`). -/
theorem nonmembership_complete (c : Cfg) (_hc : c.Lawful) (hE : EmptyLabelFresh c)
    (t : CRoot) (hwf : t.WF) (h256 : Leaves256 t) (hne : t ≠ CRoot.empty)
    (x : BitStr) (hx : x.length = 256) (hnot : ∀ lf ∈ t.leaves, lf.lbl ≠ x) :
    verifyNonMembership c (t.rootHash c) (t.genNonMembership c x) = true := by
  refine CRoot.verifyNonMembership_genNonMembership c hE t hwf (fun lf h => Nat.le_of_eq (h256 lf h)) ?_ x
    (Nat.le_of_eq hx) (fun lf h hp => hnot lf h (hp.eq_of_length ((h256 lf h).trans hx.symm)))
  refine (CRoot.not_empty_cases t).resolve_left fun he => hne ?_
  obtain ⟨tl, tr⟩ := t
  obtain ⟨rfl, rfl⟩ := he
  rfl

/-! ## soundness (full strength, for the repaired verifiers) -/

/-- an accepted membership proof speaks about a real element of the tree -/
theorem membership_sound (c : Cfg) (hc : c.Lawful) (t : CRoot) (π : MembershipProof)
    (h : verifyMembership c (t.rootHash c) π = true) :
    (⟨π.label, π.hashVal⟩ : AzksElement) ∈ elements c t :=
  mem_elements_of_cases c t π (CRoot.verifyMembership_cases c hc t π h)

/-- … in particular a leaf-shaped digest can only be proved for a real leaf, with its true
value and insertion epoch -/
theorem membership_sound_leaf (c : Cfg) (hc : c.Lawful) (t : CRoot) (π : MembershipProof)
    (v : Dig) (e : Nat) (hv : π.hashVal = c.leafHash v e)
    (h : verifyMembership c (t.rootHash c) π = true) :
    ∃ lf ∈ t.leaves, NodeLabel.ofBits lf.lbl = π.label ∧ lf.value = v ∧ lf.ep = e := by
  rcases CRoot.verifyMembership_cases c hc t π h with
    ⟨-, h2⟩ | ⟨o, ho, ⟨-, -, h2⟩ | ⟨a, s, rfl, hs, h1, h2⟩⟩
  · exact absurd (h2.symm.trans hv) (root_value_ne_leaf c hc t v e)
  · exact absurd (hv.symm.trans h2) (hc.leaf_ne_emptyNode v e)
  · rw [hv] at h2
    cases s with
    | node q l r => exact absurd h2 (hc.leaf_ne_parent _ _ _ _ _ _)
    | leaf q w f =>
      obtain ⟨rfl, rfl⟩ := hc.leaf_inj _ _ _ _ h2
      refine ⟨⟨q, v, e⟩, ?_, h1.symm, rfl, rfl⟩
      have hm : (⟨q, v, e⟩ : Leaf) ∈ a.leaves := hs.leaves_subset (by simp [CTree.leaves])
      exact CRoot.mem_leaves.mpr ⟨a, ho.elim (fun h => Or.inl h.symm) (fun h => Or.inr h.symm), hm⟩

/-- an accepted non-membership proof is only possible for a label that is not a leaf.

The hypothesis `hE : EmptyLabelFresh c` is needed (counterexample
`nonmembership_sound_fails_unfresh` at the end of the file). -/
theorem nonmembership_sound (c : Cfg) (hc : c.Lawful) (hE : EmptyLabelFresh c)
    (t : CRoot) (hwf : t.WF) (h256 : Leaves256 t)
    (π : NonMembershipProof) (h : verifyNonMembership c (t.rootHash c) π = true) :
    ∀ lf ∈ t.leaves, NodeLabel.ofBits lf.lbl ≠ π.label :=
  CRoot.verifyNonMembership_sound c hc hE t hwf (fun lf h => Nat.le_of_eq (h256 lf h)) π h

/-! ## the verifiers of the pinned commit were not sound (defects D1, D8) -/

/-- D8: without the root-label check a sibling-less proof carrying the root value verifies for
ANY claimed label. -/
theorem membership_unbound_witness (c : Cfg) (t : CRoot) (x : NodeLabel) :
    Legacy.verifyMembership c (t.rootHash c) ⟨x, t.value c .withLeafEpoch, []⟩ = true := by
  simp [Legacy.verifyMembership, foldUp_nil, CRoot.rootHash]

/-- legacy soundness needs at least one sibling level -/
theorem membership_sound_legacy_partial (c : Cfg) (hc : c.Lawful) (t : CRoot) (π : MembershipProof)
    (hne : π.siblingProofs ≠ [])
    (h : Legacy.verifyMembership c (t.rootHash c) π = true) :
    (⟨π.label, π.hashVal⟩ : AzksElement) ∈ elements c t := by
  have h1 : (foldUp c π).1 = t.value c .withLeafEpoch := by
    simp only [Legacy.verifyMembership, CRoot.rootHash, beq_iff_eq] at h
    exact hc.root_inj _ _ h
  rcases CRoot.sound_cases c hc t π h1 with ⟨hn, -⟩ | h'
  · exact absurd hn hne
  · exact mem_elements_of_cases c t π (Or.inr h')

/-- D1: the 4-leaf tree {000, 001, 01, 1} and a forged non-membership proof for the MEMBER 000,
anchored at the node "0" (not the deepest matching node, which is "00"). -/
def d1Tree : CRoot :=
  CRoot.ofLeaves [⟨[false,false,false], .raw [1], 1⟩, ⟨[false,false,true], .raw [2], 1⟩,
                  ⟨[false,true], .raw [3], 1⟩, ⟨[true], .raw [4], 1⟩]

def d1Forged (c : Cfg) : NonMembershipProof :=
  let n0 : Option CTree := d1Tree.l     -- the node "0"
  match n0 with
  | some (.node q l r) =>
    ⟨NodeLabel.ofBits [false,false,false], NodeLabel.ofBits q, l.element c, r.element c,
      ⟨NodeLabel.ofBits q, (CTree.node q l r).azks c .withLeafEpoch,
        [⟨NodeLabel.root, CRoot.element c d1Tree.r, .left⟩]⟩⟩
  | _ => ⟨NodeLabel.root, NodeLabel.root, ⟨NodeLabel.root, .raw []⟩, ⟨NodeLabel.root, .raw []⟩, ⟨NodeLabel.root, .raw [], []⟩⟩

open NodeLabel in
/-- the forged proof passes the legacy verifier in every configuration whose empty-label marker is fresh: the shape checks only compare the anchor "0" with the common prefix of its children "00" and
"01", and the membership proof of the anchor is genuine -/
theorem d1Forged_accepted (c : Cfg) (hE : EmptyLabelFresh c) :
    Legacy.verifyNonMembership c (d1Tree.rootHash c) (d1Forged c) = true := by
  have hlcp : lcpChildren c (d1Forged c) = ofBits [false] := by
    unfold lcpChildren
    rw [show (d1Forged c).child0.label = ofBits [false, false] from rfl,
      show (d1Forged c).child1.label = ofBits [false, true] from rfl,
      lcp_ofBits _ (by decide) (by decide) (hE _ (by decide)) (hE _ (by decide)) (by decide)]
    exact if_neg (hE _ (by decide))
  simp only [Legacy.verifyNonMembership, Bool.and_eq_true, nonMembershipShape_iff, hlcp]
  refine ⟨⟨?_, ?_, ?_, rfl, rfl, rfl⟩, ?_⟩
  · exact fun h => absurd (ofBits_inj (a := [false, false, false]) (b := [false, false]) (by decide) (by decide) h)
      (by decide)
  · exact fun h => absurd (ofBits_inj (a := [false, false, false]) (b := [false, true]) (by decide) (by decide) h)
      (by decide)
  · exact (isPrefixOf_ofBits (a := [false]) (b := [false, false, false]) (by decide) (by decide)).2 (by decide)
  · simp only [Legacy.verifyMembership, beq_iff_eq]
    rfl

theorem nonmembership_unsound_witness :
    Legacy.verifyNonMembership Cfg.whatsappV1 (d1Tree.rootHash Cfg.whatsappV1) (d1Forged Cfg.whatsappV1) = true ∧
    Legacy.verifyNonMembership Cfg.experimental (d1Tree.rootHash Cfg.experimental) (d1Forged Cfg.experimental) = true ∧
    (∃ lf ∈ d1Tree.leaves, NodeLabel.ofBits lf.lbl = (d1Forged Cfg.whatsappV1).label) :=
  ⟨d1Forged_accepted _ emptyLabelFresh_whatsappV1, d1Forged_accepted _ emptyLabelFresh_experimental,
    ⟨[false, false, false], .raw [1], 1⟩, by decide, rfl⟩

open NodeLabel in
/-- … and fails the check added by the repair: the child "00" of the anchor is itself a prefix of the label -/
theorem d1Forged_rejected (c : Cfg) (hE : EmptyLabelFresh c) :
    verifyNonMembership c (d1Tree.rootHash c) (d1Forged c) = false := by
  have h : childrenNotPrefix c (d1Forged c) = false :=
    Bool.eq_false_iff.2 fun h => ((childrenNotPrefix_iff c _).1 h).1 (hE [false, false] (by decide))
      ((isPrefixOf_ofBits (a := [false, false]) (b := [false, false, false]) (by decide) (by decide)).2 (by decide))
  simp only [verifyNonMembership, h, Bool.and_false, Bool.false_and]

/-- the repaired verifier rejects that forgery -/
theorem nonmembership_witness_rejected :
    verifyNonMembership Cfg.whatsappV1 (d1Tree.rootHash Cfg.whatsappV1) (d1Forged Cfg.whatsappV1) = false ∧
    verifyNonMembership Cfg.experimental (d1Tree.rootHash Cfg.experimental) (d1Forged Cfg.experimental) = false :=
  ⟨d1Forged_rejected _ emptyLabelFresh_whatsappV1, d1Forged_rejected _ emptyLabelFresh_experimental⟩

/-! ## non-vacuity: a concrete tree meets the hypotheses -/
example : d1Tree.WF := by decide +kernel

/-! ## why the hypotheses are needed (counterexamples to the statements without them) -/

section Counterexamples

private def z256 : BitStr := List.replicate 256 false
private def z254 : BitStr := List.replicate 254 false

/-- without `t ≠ CRoot.empty`: the proof generated on the empty tree is rejected, in both
configurations (all other hypotheses of `nonmembership_complete` hold trivially) -/
theorem nonmembership_complete_fails_empty :
    verifyNonMembership Cfg.whatsappV1 (CRoot.empty.rootHash Cfg.whatsappV1)
      (CRoot.empty.genNonMembership Cfg.whatsappV1 z256) = false ∧
    verifyNonMembership Cfg.experimental (CRoot.empty.rootHash Cfg.experimental)
      (CRoot.empty.genNonMembership Cfg.experimental z256) = false ∧
    CRoot.empty.WF ∧ Leaves256 CRoot.empty ∧ z256.length = 256 ∧ (∀ lf ∈ CRoot.empty.leaves, lf.lbl ≠ z256) := by
  -- the anchor's hash in the generated proof is `emptyRootValue`, never the parent hash of the two child slots
  have h : ∀ c : Cfg, c.Lawful →
      verifyNonMembership c (CRoot.empty.rootHash c) (CRoot.empty.genNonMembership c z256) = false := by
    intro c hc
    have hs : nonMembershipShape c (CRoot.empty.genNonMembership c z256) = false :=
      Bool.eq_false_iff.2 fun h =>
        hc.parent_ne_emptyRoot _ _ _ _ ((nonMembershipShape_iff c _).1 h).2.2.2.2.2
    simp only [verifyNonMembership, hs, Bool.false_and]
  refine ⟨h _ Cfg.whatsappV1_lawful, h _ Cfg.experimental_lawful, by decide, ?_, by decide +kernel, ?_⟩ <;>
    intro lf h <;> simp [CRoot.empty, CRoot.leaves] at h

/-- a lawful configuration whose empty-label marker is the label of the 256-bit string `0…0` -/
private def cUnfresh256 : Cfg := { Cfg.whatsappV1 with emptyLabel := NodeLabel.ofBits z256 }
/-- a lawful configuration whose empty-label marker is the label of the bit string `0` -/
private def cUnfresh1 : Cfg := { Cfg.whatsappV1 with emptyLabel := NodeLabel.ofBits [false] }

private theorem cUnfresh256_lawful : cUnfresh256.Lawful := by
  refine ⟨?_, ?_, ?_, ?_, ?_, ?_, ?_, ?_, ?_, ?_, ?_⟩ <;> intros <;>
    simp_all [cUnfresh256, Cfg.whatsappV1]
private theorem cUnfresh1_lawful : cUnfresh1.Lawful := by
  refine ⟨?_, ?_, ?_, ?_, ?_, ?_, ?_, ?_, ?_, ?_, ?_⟩ <;> intros <;>
    simp_all [cUnfresh1, Cfg.whatsappV1]

/-- leaves `0^256`, `0^254·10`, `0^254·11`; the non-member `0^254·01` is anchored at the node
`0^254`, whose left child is the leaf `0^256` = the marker, so the verifier takes it for an empty
slot and recomputes the wrong anchor label -/
private def tC : CRoot :=
  CRoot.ofLeaves [⟨z256, .raw [1], 1⟩, ⟨z254 ++ [true, false], .raw [2], 1⟩, ⟨z254 ++ [true, true], .raw [3], 1⟩]

/-- the node `0^254` of `tC` -/
private def aC : CTree :=
  .node z254 (.leaf z256 (.raw [1]) 1)
    (.node (z254 ++ [true]) (.leaf (z254 ++ [true, false]) (.raw [2]) 1) (.leaf (z254 ++ [true, true]) (.raw [3]) 1))

private theorem tC_eq : tC = ⟨some aC, none⟩ := by decide +kernel

/-- without `EmptyLabelFresh`: completeness fails for a lawful configuration -/
theorem nonmembership_complete_fails_unfresh :
    cUnfresh256.Lawful ∧ tC.WF ∧ (∀ lf ∈ tC.leaves, lf.lbl.length = 256) ∧ tC ≠ CRoot.empty ∧
    (z254 ++ [false, true]).length = 256 ∧ (∀ lf ∈ tC.leaves, lf.lbl ≠ z254 ++ [false, true]) ∧
    verifyNonMembership cUnfresh256 (tC.rootHash cUnfresh256)
      (tC.genNonMembership cUnfresh256 (z254 ++ [false, true])) = false := by
  -- the walk stops at the node `0^254`
  have hpath : (tC.path cUnfresh256 (z254 ++ [false, true])).1 = some aC := by
    rw [tC_eq]
    decide +kernel
  have hs : nonMembershipShape cUnfresh256 (tC.genNonMembership cUnfresh256 (z254 ++ [false, true])) = false :=
    Bool.eq_false_iff.2 fun h => by
      have h4 := ((nonMembershipShape_iff _ _).1 h).2.2.2.1
      -- `child0` carries the marker, so the recomputed anchor label is the root label, not `0^254`
      simp only [CRoot.genNonMembership_node _ _ _ hpath, lcpChildren, CTree.element, CTree.lbl] at h4
      rw [C17.lcp_empty cUnfresh256.emptyLabel (NodeLabel.ofBits z256) _ (.inl rfl), if_pos rfl] at h4
      exact absurd (congrArg NodeLabel.len h4) (by decide +kernel)
  rw [tC_eq]
  refine ⟨cUnfresh256_lawful, by decide +kernel, by decide +kernel, by decide, by decide +kernel,
    by decide +kernel, ?_⟩
  rw [← tC_eq]
  simp only [verifyNonMembership, hs, Bool.false_and]

/-- leaves `0^256` and `01·0^254` below the node `0`, whose label is the marker -/
private def tS : CRoot := CRoot.ofLeaves [⟨z256, .raw [1], 1⟩, ⟨[false, true] ++ z254, .raw [2], 1⟩]

/-- a non-membership proof for the MEMBER `0^256`, anchored at the root -/
private def forgedS : NonMembershipProof :=
  ⟨NodeLabel.ofBits z256, NodeLabel.root, CRoot.element cUnfresh1 tS.l, CRoot.element cUnfresh1 tS.r,
    ⟨NodeLabel.root, tS.value cUnfresh1 .withLeafEpoch, []⟩⟩

private theorem tS_eq :
    tS = ⟨some (.node [false] (.leaf z256 (.raw [1]) 1) (.leaf ([false, true] ++ z254) (.raw [2]) 1)), none⟩ := by
  decide +kernel

/-- a proof anchored at the root whose two child slots both carry the marker: the anchor label is recomputed as the
root label and neither child is compared with the label, whatever stands below -/
private theorem accepts_marker_children (c : Cfg) (t : CRoot) (x : NodeLabel) (v0 v1 : Dig) (hx : x ≠ c.emptyLabel)
    (hv : c.parentHash v0 c.emptyLabel v1 c.emptyLabel = t.value c .withLeafEpoch) :
    verifyNonMembership c (t.rootHash c)
      ⟨x, .root, ⟨c.emptyLabel, v0⟩, ⟨c.emptyLabel, v1⟩, ⟨.root, t.value c .withLeafEpoch, []⟩⟩ = true := by
  simp only [verifyNonMembership, Bool.and_eq_true, nonMembershipShape_iff, childrenNotPrefix_iff, lcpChildren,
    C17.lcp_empty _ _ _ (.inl rfl), if_pos, verifyMembership, beq_iff_eq]
  exact ⟨⟨⟨hx, hx, by simp [NodeLabel.isPrefixOf, NodeLabel.root, NodeLabel.allBelow], trivial, trivial, hv⟩,
    fun h => absurd rfl h, fun h => absurd rfl h⟩, rfl, rfl⟩

/-- without `EmptyLabelFresh`: soundness fails for a lawful configuration -/
theorem nonmembership_sound_fails_unfresh :
    cUnfresh1.Lawful ∧ tS.WF ∧ (∀ lf ∈ tS.leaves, lf.lbl.length = 256) ∧
    verifyNonMembership cUnfresh1 (tS.rootHash cUnfresh1) forgedS = true ∧
    (∃ lf ∈ tS.leaves, NodeLabel.ofBits lf.lbl = forgedS.label) := by
  refine ⟨cUnfresh1_lawful, by decide +kernel, by decide +kernel, ?_,
    ⟨z256, .raw [1], 1⟩, by decide +kernel, rfl⟩
  unfold forgedS
  rw [tS_eq]
  exact accepts_marker_children cUnfresh1 _ _ _ _
    (fun h => absurd (congrArg NodeLabel.len h) (by decide +kernel)) rfl

end Counterexamples

end Akd.C05
