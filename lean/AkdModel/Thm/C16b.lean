/-
C16 (and C13), concurrent part — a read-through cache fill can never leave an older version of a
record in the cache than the database holds, whatever the interleaving of readers, the writer and
expiry; with the pinned code (`Proto.legacy`) it can, and the stale entry stays until it expires —
for the epoch record, which never expires, until the next write or flush.
-/
import AkdModel.CacheFill
import AkdModel.Lemmas.CacheFillLemmas
namespace Akd.CacheFill

/-- **coherence** in every reachable state of the repaired protocol -/
theorem coherent_reachable (n : Nat) (sched : List Act) (s : Sys)
    (hrun : run .fixed (init n) sched = some s) (hne : NoEvictInFill .fixed (init n) sched) :
    Coherent s :=
  (inv_reachable n sched s hrun hne).coh

/-- corollary: when no write is in flight, a cached entry is the database's record -/
theorem quiescent_cache_exact (n : Nat) (sched : List Act) (s : Sys)
    (hrun : run .fixed (init n) sched = some s) (hne : NoEvictInFill .fixed (init n) sched)
    (hw : s.w = .idle) (v : Nat) (hc : s.cache = some v) : v = s.db :=
  ((inv_reachable n sched s hrun hne).coh v hc).resolve_right fun h => h.1 hw

/-- every answer served from the cache is the version the database held at that moment or the one before it (the reader
lag C13 allows), never older -/
theorem answers_recent (n : Nat) (sched : List Act) (s : Sys)
    (hrun : run .fixed (init n) sched = some s) (hne : NoEvictInFill .fixed (init n) sched) :
    ∀ a ∈ s.answers, a.1 = a.2 ∨ a.1 + 1 = a.2 :=
  (inv_reachable n sched s hrun hne).ans

/-- the pinned code: a stale fill overwrites the newer entry and stays (found by the scheduler on
the real code as `cachefill-unpublished-epoch-hash`) -/
theorem stale_fill_witness :
    ∃ sched s, run .legacy (init 1) sched = some s ∧ NoEvictInFill .legacy (init 1) sched ∧
      s.w = .idle ∧ s.cache = some 0 ∧ s.db = 1 :=
  ⟨[.reader 0, .reader 0, .writer, .writer, .writer, .reader 0], _, rfl, by decide, rfl, rfl, rfl⟩

/-- the same schedule under the repaired protocol leaves the cache exact -/
theorem stale_fill_witness_fixed :
    ∃ s, run .fixed (init 1) [.reader 0, .reader 0, .writer, .writer, .writer, .reader 0] = some s ∧
      s.cache = some 1 ∧ s.db = 1 :=
  ⟨_, rfl, rfl, rfl⟩

/-- the residual window, stated: if the entry expires BETWEEN the generation check and the insertion
of one `fill` call, the stale value is cached -/
theorem evict_in_fill_witness :
    ∃ sched s, run .fixed (init 1) sched = some s ∧ s.w = .idle ∧ s.cache = some 0 ∧ s.db = 1 :=
  ⟨[.reader 0, .reader 0, .reader 0, .writer, .writer, .writer, .evict, .reader 0], _, rfl, rfl, rfl, rfl⟩

/-- non-vacuity: a schedule with writes, reads, hits, misses and evictions satisfying the hypothesis -/
example : NoEvictInFill .fixed (init 2)
    [.reader 0, .writer, .reader 0, .reader 1, .writer, .reader 0, .writer, .evict, .reader 1, .reader 1, .reader 1, .reader 1] := by
  decide

end Akd.CacheFill
