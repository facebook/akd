/-
C14, sub-batch clause — "inserting the same leaf set ... split into any sub-batches within one epoch, yields the
same tree".

`batchInsert_refines` (Thm/C01b) requires every leaf already in the tree to be OLDER than the epoch being
inserted.  Within one epoch that is false for the second sub-batch: the first one has already put leaves of the
new epoch into the tree (the caller re-uses the epoch by resetting `latest_epoch`, as the order/sub-batch runs of
the harness and `Azks::batch_insert_nodes` callers do).  `batchInsert_refines_sameEpoch` is the refinement theorem
with the weaker hypothesis `lf.ep ≤ a.latestEpoch + 1`; `batchInsert_split` is the clause.
-/
import AkdModel.Thm.C01b
namespace Akd.C01
open Akd

/-- the refinement theorem for a tree that may already hold leaves of the epoch being inserted -/
theorem batchInsert_refines_sameEpoch (c : Cfg) (hc : c.emptyLabel.len = 0) (m : InsertMode)
    (s : NodeStore) (a : Azks) (t : CRoot)
    (hrep : ReprRoot c m s t) (hwf : t.WF)
    (hep : ∀ lf ∈ t.leaves, 1 ≤ lf.ep ∧ lf.ep ≤ a.latestEpoch + 1)
    (els : List (BitStr × Dig))
    (hpf : PrefixFree (t.leaves ++ newLeaves els (a.latestEpoch + 1)))
    (hlen : ∀ lf ∈ t.leaves ++ newLeaves els (a.latestEpoch + 1), 1 ≤ lf.lbl.length ∧ lf.lbl.length ≤ 256) :
    ∃ s' n, s.batchInsert c m a (els.map fun x => (NodeLabel.ofBits x.1, x.2))
        = .ok (s', ⟨a.latestEpoch + 1, n⟩) ∧
      ReprRoot c m s' ((newLeaves els (a.latestEpoch + 1)).foldl CRoot.insert1 t) := by
  obtain ⟨s', n, hrun, hrep', _⟩ := batchInsert_spec c hc m s a t hrep hwf hep els hpf hlen
    (Ins.WriteInv.trivial _) trivial (fun _ _ h => h.elim)
  exact ⟨s', n, hrun, hrep'⟩

theorem newLeaves_append (e1 e2 : List (BitStr × Dig)) (ep : Nat) :
    newLeaves (e1 ++ e2) ep = newLeaves e1 ep ++ newLeaves e2 ep := List.map_append

theorem split_fst (t : CRoot) (e1 e2 : List (BitStr × Dig)) (ep : Nat)
    (hpf : PrefixFree (t.leaves ++ newLeaves (e1 ++ e2) ep))
    (hlen : ∀ lf ∈ t.leaves ++ newLeaves (e1 ++ e2) ep, 1 ≤ lf.lbl.length ∧ lf.lbl.length ≤ 256) :
    PrefixFree (t.leaves ++ newLeaves e1 ep) ∧
      ∀ lf ∈ t.leaves ++ newLeaves e1 ep, 1 ≤ lf.lbl.length ∧ lf.lbl.length ≤ 256 := by
  rw [newLeaves_append, ← List.append_assoc] at hpf hlen
  exact ⟨List.Pairwise.sublist (List.sublist_append_left _ _) hpf,
    fun lf h => hlen lf (List.mem_append_left _ h)⟩

theorem split_snd (t : CRoot) (hwf : t.WF) (e1 e2 : List (BitStr × Dig)) (ep : Nat) (hE : 1 ≤ ep)
    (hep : ∀ lf ∈ t.leaves, 1 ≤ lf.ep ∧ lf.ep ≤ ep)
    (hpf : PrefixFree (t.leaves ++ newLeaves (e1 ++ e2) ep))
    (hlen : ∀ lf ∈ t.leaves ++ newLeaves (e1 ++ e2) ep, 1 ≤ lf.lbl.length ∧ lf.lbl.length ≤ 256) :
    ((newLeaves e1 ep).foldl CRoot.insert1 t).WF ∧
      (∀ lf ∈ ((newLeaves e1 ep).foldl CRoot.insert1 t).leaves, 1 ≤ lf.ep ∧ lf.ep ≤ ep) ∧
      PrefixFree (((newLeaves e1 ep).foldl CRoot.insert1 t).leaves ++ newLeaves e2 ep) ∧
      ∀ lf ∈ ((newLeaves e1 ep).foldl CRoot.insert1 t).leaves ++ newLeaves e2 ep,
        1 ≤ lf.lbl.length ∧ lf.lbl.length ≤ 256 := by
  obtain ⟨hpf1, hlen1⟩ := split_fst t e1 e2 ep hpf hlen
  obtain ⟨w1, p1⟩ := foldl_insert1_spec t hwf e1 ep hpf1 hlen1
  rw [newLeaves_append, ← List.append_assoc] at hpf hlen
  have pp : (((newLeaves e1 ep).foldl CRoot.insert1 t).leaves ++ newLeaves e2 ep).Perm
      (t.leaves ++ newLeaves e1 ep ++ newLeaves e2 ep) := p1.append_right _
  refine ⟨w1, ?_, (pp.pairwise_iff Canon.Incomp.symm).2 hpf, fun lf h => hlen lf (pp.mem_iff.1 h)⟩
  intro lf h
  rcases List.mem_append.1 (p1.mem_iff.1 h) with h | h
  · exact hep lf h
  · obtain ⟨b, _, rfl⟩ := List.mem_map.1 h
    exact ⟨hE, Nat.le_refl _⟩

/-- both ways of inserting `e1 ++ e2` succeed and yield storage representing the canonical trie of the fold -/
theorem batchInsert_split_fold (c : Cfg) (hc : c.emptyLabel.len = 0) (m : InsertMode)
    (s : NodeStore) (a : Azks) (t : CRoot)
    (hrep : ReprRoot c m s t) (hwf : t.WF)
    (hep : ∀ lf ∈ t.leaves, 1 ≤ lf.ep ∧ lf.ep ≤ a.latestEpoch)
    (e1 e2 : List (BitStr × Dig))
    (hpf : PrefixFree (t.leaves ++ newLeaves (e1 ++ e2) (a.latestEpoch + 1)))
    (hlen : ∀ lf ∈ t.leaves ++ newLeaves (e1 ++ e2) (a.latestEpoch + 1), 1 ≤ lf.lbl.length ∧ lf.lbl.length ≤ 256) :
    ∃ s1 n1 s2 n2 s12 n12,
      s.batchInsert c m a (e1.map fun x => (NodeLabel.ofBits x.1, x.2)) = .ok (s1, ⟨a.latestEpoch + 1, n1⟩) ∧
      s1.batchInsert c m ⟨a.latestEpoch, n1⟩ (e2.map fun x => (NodeLabel.ofBits x.1, x.2))
        = .ok (s2, ⟨a.latestEpoch + 1, n2⟩) ∧
      s.batchInsert c m a ((e1 ++ e2).map fun x => (NodeLabel.ofBits x.1, x.2)) = .ok (s12, ⟨a.latestEpoch + 1, n12⟩) ∧
      ReprRoot c m s2 ((newLeaves (e1 ++ e2) (a.latestEpoch + 1)).foldl CRoot.insert1 t) ∧
      ReprRoot c m s12 ((newLeaves (e1 ++ e2) (a.latestEpoch + 1)).foldl CRoot.insert1 t) := by
  obtain ⟨hpf1, hlen1⟩ := split_fst t e1 e2 _ hpf hlen
  obtain ⟨w1, hep1, hpf2, hlen2⟩ := split_snd t hwf e1 e2 (a.latestEpoch + 1) (Nat.le_add_left _ _)
    (fun lf h => ⟨(hep lf h).1, Nat.le_succ_of_le (hep lf h).2⟩) hpf hlen
  obtain ⟨s1, n1, hrun1, hrep1⟩ := batchInsert_refines c hc m s a t hrep hwf hep e1 hpf1 hlen1
  obtain ⟨s2, n2, hrun2, hrep2⟩ := batchInsert_refines_sameEpoch c hc m s1 ⟨a.latestEpoch, n1⟩ _ hrep1 w1 hep1
    e2 hpf2 hlen2
  obtain ⟨s12, n12, hrun12, hrep12⟩ := batchInsert_refines c hc m s a t hrep hwf hep (e1 ++ e2) hpf hlen
  rw [← List.foldl_append, ← newLeaves_append] at hrep2
  exact ⟨s1, n1, s2, n2, s12, n12, hrun1, hrun2, hrun12, hrep2, hrep12⟩

/-- **sub-batches**: inserting `e1` and then, in the same epoch, `e2` yields storage representing the same canonical
trie as inserting `e1 ++ e2` at once -/
theorem batchInsert_split (c : Cfg) (hc : c.emptyLabel.len = 0) (m : InsertMode)
    (s : NodeStore) (a : Azks) (t : CRoot)
    (hrep : ReprRoot c m s t) (hwf : t.WF)
    (hep : ∀ lf ∈ t.leaves, 1 ≤ lf.ep ∧ lf.ep ≤ a.latestEpoch)
    (e1 e2 : List (BitStr × Dig))
    (hpf : PrefixFree (t.leaves ++ newLeaves (e1 ++ e2) (a.latestEpoch + 1)))
    (hlen : ∀ lf ∈ t.leaves ++ newLeaves (e1 ++ e2) (a.latestEpoch + 1), 1 ≤ lf.lbl.length ∧ lf.lbl.length ≤ 256) :
    ∃ s1 n1 s2 n2 s12 n12 t',
      s.batchInsert c m a (e1.map fun x => (NodeLabel.ofBits x.1, x.2)) = .ok (s1, ⟨a.latestEpoch + 1, n1⟩) ∧
      s1.batchInsert c m ⟨a.latestEpoch, n1⟩ (e2.map fun x => (NodeLabel.ofBits x.1, x.2))
        = .ok (s2, ⟨a.latestEpoch + 1, n2⟩) ∧
      s.batchInsert c m a ((e1 ++ e2).map fun x => (NodeLabel.ofBits x.1, x.2)) = .ok (s12, ⟨a.latestEpoch + 1, n12⟩) ∧
      ReprRoot c m s2 t' ∧ ReprRoot c m s12 t' := by
  obtain ⟨s1, n1, s2, n2, s12, n12, h⟩ := batchInsert_split_fold c hc m s a t hrep hwf hep e1 e2 hpf hlen
  exact ⟨s1, n1, s2, n2, s12, n12, _, h⟩

/-- in directory mode the two ways publish the same root hash -/
theorem batchInsert_split_rootHash (c : Cfg) (hc : c.emptyLabel.len = 0)
    (s : NodeStore) (a : Azks) (t : CRoot)
    (hrep : ReprRoot c .directory s t) (hwf : t.WF)
    (hep : ∀ lf ∈ t.leaves, 1 ≤ lf.ep ∧ lf.ep ≤ a.latestEpoch)
    (e1 e2 : List (BitStr × Dig))
    (hpf : PrefixFree (t.leaves ++ newLeaves (e1 ++ e2) (a.latestEpoch + 1)))
    (hlen : ∀ lf ∈ t.leaves ++ newLeaves (e1 ++ e2) (a.latestEpoch + 1), 1 ≤ lf.lbl.length ∧ lf.lbl.length ≤ 256) :
    ∃ s1 n1 s2 a2 s12 a12,
      s.batchInsert c .directory a (e1.map fun x => (NodeLabel.ofBits x.1, x.2)) = .ok (s1, ⟨a.latestEpoch + 1, n1⟩) ∧
      s1.batchInsert c .directory ⟨a.latestEpoch, n1⟩ (e2.map fun x => (NodeLabel.ofBits x.1, x.2)) = .ok (s2, a2) ∧
      s.batchInsert c .directory a ((e1 ++ e2).map fun x => (NodeLabel.ofBits x.1, x.2)) = .ok (s12, a12) ∧
      s2.rootHash c a2 = s12.rootHash c a12 := by
  obtain ⟨s1, n1, s2, n2, s12, n12, hrun1, hrun2, hrun12, hrep2, hrep12⟩ :=
    batchInsert_split_fold c hc .directory s a t hrep hwf hep e1 e2 hpf hlen
  have hle := foldl_ep_le t hwf a hep (e1 ++ e2) hpf hlen
  exact ⟨s1, n1, s2, _, s12, _, hrun1, hrun2, hrun12,
    (rootHash_of_reprRoot c .directory s2 _ _ n2 hrep2 hle).trans
      (rootHash_of_reprRoot c .directory s12 _ _ n12 hrep12 hle).symm⟩

end Akd.C01
