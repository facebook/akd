/-
C18 — a node label is bound to the label, freshness and version it was derived from   (partial)

What is logic and is proved here:
* the VRF input bytes are injective in (label, freshness, version);
* completeness of ECVRF in an abstract module-over-scalars model (the verification equations hold
  for every honestly generated proof, and the output is the evaluation);
* the 80-byte proof encoding round-trips, and any other length is rejected;
* the decision logic of `verify_label` over the VRF contract.
What is NOT a theorem (assumed contract, DESIGN §4 (ii)): uniqueness / non-malleability of ECVRF
outputs, key separation, SHA-512 and Edwards-curve arithmetic.
-/
import Mathlib.Algebra.Module.Defs
import Mathlib.Tactic.Ring
import AkdModel.Vrf
import AkdModel.Verify
import AkdModel.Thm.C06
import AkdModel.Lemmas.VrfLemmas
namespace Akd.C18
open Akd Akd.Vrf

/-- distinct (label, freshness, version) triples reach the VRF as distinct inputs -/
theorem labelInput_injective (l l' : Bytes) (f f' : Bool) (v v' : Nat)
    (hl : l.length < 2 ^ 64) (hl' : l'.length < 2 ^ 64) (hv : v < 2 ^ 64) (hv' : v' < 2 ^ 64)
    (h : labelInput l f v = labelInput l' f' v') : l = l' ∧ f = f' ∧ v = v' := by
  -- the length prefix has fixed width, so it can be split off and fixes where the label ends
  simp only [labelInput, i2osp, List.append_assoc] at h
  obtain ⟨h1, h2⟩ := List.append_inj h (by rw [be8_length, be8_length])
  obtain ⟨h3, h4⟩ := List.append_inj h2 (be8_inj hl hl' h1)
  simp only [List.cons_append, List.nil_append, List.cons.injEq] at h4
  refine ⟨h3, ?_, be8_inj hv hv' h4.2⟩
  cases f <;> cases f' <;> first | rfl | exact absurd h4.1 (by decide)

theorem proof_bytes_roundtrip (p : Proof) (hg : p.gamma.length = 32) (hc : p.c < 2 ^ 128) (hs : p.s < ell) :
    decodeProof (encodeProof p) = some p :=
  decodeProof_of_mod_eq p hg hc p.s (by have := two_ell_lt; omega) (Nat.mod_eq_of_lt hs)

theorem proof_wrong_length_rejected (bs : Bytes) (h : bs.length ≠ 80) : decodeProof bs = none :=
  if_pos h

/-- a non-canonical encoding of `s` (`s + ℓ`, which still fits 32 bytes) decodes to the SAME proof:
altering the bytes this way cannot make a different label verify -/
theorem proof_s_plus_ell (p : Proof) (hg : p.gamma.length = 32) (hc : p.c < 2 ^ 128) (hs : p.s < ell) :
    decodeProof (p.gamma ++ le 16 p.c ++ le 32 (p.s + ell)) = some p :=
  decodeProof_of_mod_eq p hg hc (p.s + ell) (by have := two_ell_lt; omega)
    (by rw [Nat.add_mod_right, Nat.mod_eq_of_lt hs])

/-! ### ECVRF completeness in an abstract model: scalars form a commutative ring `R`, points an
`R`-module `M`; `B` is the base point, `H α` the hash-to-curve of the input, `hsh` the challenge hash. -/
section ecvrf
variable {R M A : Type} [CommRing R] [AddCommGroup M] [Module R M]

structure EProof (R M : Type) where
  gamma : M
  c : R
  s : R

/-- `VRFExpandedPrivateKey::prove` with secret scalar `x` and nonce `k` (ecvrf_impl.rs:110-141) -/
def prove (B : M) (H : A → M) (hsh : M → M → M → M → M → R) (x k : R) (α : A) : EProof R M :=
  let Γ := x • H α
  let c := hsh (x • B) (H α) Γ (k • B) (k • H α)
  ⟨Γ, c, k + c * x⟩

/-- `VRFPublicKey::verify` (ecvrf_impl.rs:197-228) -/
def verify (B : M) (H : A → M) (hsh : M → M → M → M → M → R) (Y : M) (α : A) (π : EProof R M) : Prop :=
  π.c = hsh Y (H α) π.gamma (π.s • B - π.c • Y) (π.s • H α - π.c • π.gamma)

/-- every honestly generated proof verifies under the public key `x • B`, and its `gamma` — from which
the output (hence the node label) is computed — is the evaluation `x • H α` -/
theorem vrf_complete (B : M) (H : A → M) (hsh : M → M → M → M → M → R) (x k : R) (α : A) :
    verify B H hsh (x • B) α (prove B H hsh x k α) ∧ (prove B H hsh x k α).gamma = x • H α := by
  refine ⟨?_, rfl⟩
  -- `s • P - c • (x • P) = k • P` for `s = k + c * x`, at `P = B` and at `P = H α`
  have e : ∀ (c : R) (P : M), (k + c * x) • P - c • x • P = k • P := fun c P => by
    rw [add_smul, mul_smul, add_sub_cancel_right]
  simp only [verify, prove]
  rw [e, e]

/-- the proof's `gamma` does not depend on the nonce: evaluation is deterministic -/
theorem vrf_deterministic (B : M) (H : A → M) (hsh : M → M → M → M → M → R) (x k k' : R) (α : A) :
    (prove B H hsh x k α).gamma = (prove B H hsh x k' α).gamma := rfl
end ecvrf

/-- accepted iff the proof is the honest one for exactly this (label, freshness, version) and the claimed
node label is the VRF output for it -/
theorem verifyLabel_spec (t : VrfTable) (u : Akd.Bytes) (f : Bool) (v : Nat) (pf : VrfProof) (nl : NodeLabel) :
    Verify.verifyLabel t u f v pf nl = true ↔ pf = some ⟨u, f, v⟩ ∧ t.get? ⟨u, f, v⟩ = some nl := by
  cases pf with
  | none => simp [Verify.verifyLabel]
  | some cl =>
    obtain ⟨cu, cf, cv⟩ := cl
    simp only [Verify.verifyLabel, Bool.and_eq_true, decide_eq_true_eq, Option.some.injEq,
      VrfClaim.mk.injEq]
    constructor
    · rintro ⟨⟨⟨rfl, rfl⟩, rfl⟩, h⟩
      refine ⟨⟨rfl, rfl, rfl⟩, ?_⟩
      cases hg : t.get? ⟨cu, cf, cv⟩ with
      | none => rw [hg] at h; exact absurd h (by simp)
      | some l => rw [hg] at h; simpa using h
    · rintro ⟨⟨rfl, rfl, rfl⟩, h⟩
      rw [h]
      simp

-- `hv` is not needed: the proof object already pins the claim, and `get?` is a
-- function; the place where `VrfOK.inj` matters is `verifyLabel_label_binds` below
set_option linter.unusedVariables false in
/-- with distinct outputs for distinct inputs, a proof accepted for one (label, freshness, version, node
label) is rejected as soon as any single one of them is altered -/
theorem verifyLabel_single_field (t : VrfTable) (hv : C06.VrfOK t) (u u' : Akd.Bytes) (f f' : Bool) (v v' : Nat)
    (pf : VrfProof) (nl nl' : NodeLabel)
    (h : Verify.verifyLabel t u f v pf nl = true)
    (hne : (u', f', v', nl') ≠ (u, f, v, nl)) (hpf : Verify.verifyLabel t u' f' v' pf nl' = true) : False := by
  obtain ⟨h1, h2⟩ := (verifyLabel_spec t u f v pf nl).mp h
  obtain ⟨h3, h4⟩ := (verifyLabel_spec t u' f' v' pf nl').mp hpf
  -- the claim is pinned by the proof object itself; `hv.inj` is not needed for this direction
  have hk : (⟨u', f', v'⟩ : VrfClaim) = ⟨u, f, v⟩ := Option.some.inj (h3.symm.trans h1)
  rw [hk, h2] at h4
  injection hk with e1 e2 e3
  exact hne (by rw [e1, e2, e3, Option.some.inj h4])

/-- the complementary use of `VrfOK.inj`: two accepted proofs (possibly different proof objects) for the
same node label are for the same (label, freshness, version) -/
theorem verifyLabel_label_binds (t : VrfTable) (hv : C06.VrfOK t) (u u' : Akd.Bytes) (f f' : Bool) (v v' : Nat)
    (pf pf' : VrfProof) (nl : NodeLabel)
    (h : Verify.verifyLabel t u f v pf nl = true) (h' : Verify.verifyLabel t u' f' v' pf' nl = true) :
    u = u' ∧ f = f' ∧ v = v' := by
  obtain ⟨-, h2⟩ := (verifyLabel_spec t u f v pf nl).mp h
  obtain ⟨-, h4⟩ := (verifyLabel_spec t u' f' v' pf' nl).mp h'
  have hk := hv.inj _ _ nl h2 h4
  injection hk with e1 e2 e3
  exact ⟨e1, e2, e3⟩

/-! ### non-vacuity -/

example : labelInput [] true 1 ≠ labelInput [0] false 1 := by decide
example : labelInput [1, 2] true 7 ≠ labelInput [1, 2] true 8 := by decide
example : labelInput [1, 2] true 7 ≠ labelInput [1, 2] false 7 := by decide
example : labelInput [1, 2] true 258 =
    [0, 0, 0, 0, 0, 0, 0, 2, 1, 2, 1, 0, 0, 0, 0, 0, 0, 1, 2] := by decide
/-- without the bound the encoding is not injective: `be8` truncates to 64 bits -/
example : labelInput [] true 0 = labelInput [] true (2 ^ 64) := by decide

def exProof : Proof := ⟨List.replicate 32 7, 2 ^ 127 + 5, ell - 1⟩
example : exProof.gamma.length = 32 ∧ exProof.c < 2 ^ 128 ∧ exProof.s < ell := by decide
example : decodeProof (encodeProof exProof) = some exProof :=
  proof_bytes_roundtrip exProof (by decide) (by decide) (by decide)
example : (encodeProof exProof).length = 80 := by decide
example : decodeProof (List.replicate 79 0) = none := proof_wrong_length_rejected _ (by decide)
example : decodeProof (List.replicate 81 0) = none := proof_wrong_length_rejected _ (by decide)
/-- the `s + ℓ` encoding really is a different byte string -/
example : le 32 (3 + ell) ≠ le 32 3 := by decide
/-- and the canonicity hypothesis `s < ℓ` is needed: `s = ℓ` is reduced to `0` -/
example : ofLe (le 32 ell) % ell = 0 := by decide

/-- the abstract ECVRF model instantiated at `R = M = ℤ` -/
example : verify (R := Int) (M := Int) (A := Int) 1 (fun a => a + 2) (fun a b c d e => a + b + c + d + e) (3 • (1 : Int)) 5
    (prove (R := Int) (M := Int) (A := Int) 1 (fun a => a + 2) (fun a b c d e => a + b + c + d + e) 3 11 5) :=
  (vrf_complete (R := Int) (M := Int) (A := Int) 1 _ _ 3 11 5).1

def exTable : VrfTable := [(⟨[1], true, 1⟩, ⟨Vector.replicate 32 1, 256⟩), (⟨[1], false, 1⟩, ⟨Vector.replicate 32 2, 256⟩)]
example : Verify.verifyLabel exTable [1] true 1 (some ⟨[1], true, 1⟩) ⟨Vector.replicate 32 1, 256⟩ = true := by decide
example : Verify.verifyLabel exTable [1] false 1 (some ⟨[1], true, 1⟩) ⟨Vector.replicate 32 1, 256⟩ = false := by decide
example : Verify.verifyLabel exTable [1] true 2 (some ⟨[1], true, 1⟩) ⟨Vector.replicate 32 1, 256⟩ = false := by decide
example : Verify.verifyLabel exTable [1] true 1 (some ⟨[1], true, 1⟩) ⟨Vector.replicate 32 2, 256⟩ = false := by decide

end Akd.C18
