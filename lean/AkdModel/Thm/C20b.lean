/-
C20, storage level — `StorageManager::tombstone_value_states` (manager/mod.rs, model `State.tombstone`)
replaces exactly the label's stored values up to the cut by tombstones (payload 0), inside an open
transaction as outside, and touches nothing else: no later state of the label, no state of another
label, no tree node, not the epoch record.  (That the tree, the epoch hashes and the proofs do not depend
on the stored values at all is `Thm/C20.lean`, at directory level.)
-/
import AkdModel.Thm.C16
import AkdModel.Lemmas.TombStoreLemmas
namespace Akd.Store

/-- what a read of key `k` returns through the manager -/
def readOf (s : State) (k : Key) : Option Rec := truth s k

/-- **exactness**: after `tombstone u cut` the label's states are the old ones with exactly those of
epoch ≤ cut turned into tombstones (as a set; versions and epochs unchanged) -/
theorem tombstone_exact (s : State) (h : Inv s) (u cut : Nat) :
    ∀ r, r ∈ view (s.tombstone fixed u cut false).1 u ↔ ∃ r0 ∈ view s u, r = tombOne cut r0 := by
  intro r
  rw [State.mem_view_tombstone s h.dbWF h.logWF u cut r,
    State.mem_setAll_tombUpd (State.KU_view h.dbWF u) cut r]

/-- later states keep their value -/
theorem tombstone_keeps_later (s : State) (h : Inv s) (u cut : Nat) (r : Rec) (hr : r ∈ view s u)
    (hlt : cut < State.epochOf r) : r ∈ view (s.tombstone fixed u cut false).1 u := by
  refine (tombstone_exact s h u cut r).2 ⟨r, hr, ?_⟩
  unfold tombOne
  rw [if_neg (fun hc => Nat.not_le_of_gt hlt hc.1)]

theorem tombstone_active (s : State) (u cut : Nat) (f : Bool) :
    (s.tombstone fixed u cut f).1.active = s.active := by
  cases f
  · exact (State.tombstone_fields s u cut).1
  · rfl

/-- every other key — states of other labels, tree nodes, the epoch record — reads as before -/
theorem tombstone_frame (s : State) (h : Inv s) (u cut : Nat) (k : Key)
    (hk : ∀ e, k ≠ .vs u e) : readOf (s.tombstone fixed u cut false).1 k = readOf s k := by
  obtain ⟨e1, e2⟩ := State.tombstone_get?_other s h.dbWF u cut k hk
  unfold readOf truth
  rw [tombstone_active, e1, e2]

/-- non-vacuity: a label with three states, one already a tombstone, cut in the middle, inside a transaction
in which one state is pending -/
example :
    let s : State := { db := [⟨.vs 1 1, 1, 7⟩, ⟨.vs 1 2, 2, 0⟩, ⟨.vs 2 1, 1, 5⟩, ⟨.azks, 0, 3⟩],
                       log := [⟨.vs 1 3, 3, 9⟩], active := true, canClean := false }
    view (s.tombstone fixed 1 2 false).1 1 = [⟨.vs 1 1, 1, 0⟩, ⟨.vs 1 2, 2, 0⟩, ⟨.vs 1 3, 3, 9⟩]
    ∧ view (s.tombstone fixed 1 2 false).1 2 = [⟨.vs 2 1, 1, 5⟩] := by
  decide

end Akd.Store
