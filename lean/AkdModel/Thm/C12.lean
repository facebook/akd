/-
C12 — concurrent publishes take effect one after another.

For the repaired protocol (`Proto.fixed`): under EVERY schedule of any number of publishers the commits
reach the database with distinct consecutive epochs, and every publisher that returns `done e` after
changing the directory is the one that wrote epoch `e`.
For the pinned commit (`Proto.legacy`) a two-publisher schedule loses an epoch (defect D6).
A storage-call trace that `validate` accepts commits consecutive epochs (`validate_consecutive`); the
harness feeds it every trace of the real code it explores.
-/
import AkdModel.Conc
import AkdModel.Lemmas.ConcLemmas
namespace Akd.Conc

/-- **serialisability of the repaired protocol** (full strength: every schedule, any number of
publishers, any number of node reads per publisher, effective and no-op batches) -/
theorem serializable (base : Nat) (pubs : List Pub) (hf : Fresh pubs) (sched : List Nat) :
    let s := run .fixed (init base pubs) sched
    Consecutive base s.hist ∧ s.epoch = base + s.hist.length ∧
    (∀ i e, (i, e) ∈ s.hist → ∃ p, s.pubs[i]? = some p ∧ p.pc = .done e) ∧
    (∀ i p e, s.pubs[i]? = some p → p.pc = .done e → p.changes = true → (i, e) ∈ s.hist) ∧
    (∀ i j e, (i, e) ∈ s.hist → (j, e) ∈ s.hist → i = j) := by
  intro s
  have hI : Inv base s := inv_reachable base pubs hf sched
  refine ⟨hI.hCons, hI.hEpoch, fun i e h => ?_, hI.hDoneHist, fun i j e => Consecutive.unique hI.hCons⟩
  obtain ⟨p, hp, hd, _⟩ := hI.hHistDone i e h
  exact ⟨p, hp, hd⟩

/-- a no-op publish leaves no trace in the log, and the epoch it returns lies between the starting epoch
and the current one -/
theorem noop_no_effect (base : Nat) (pubs : List Pub) (hf : Fresh pubs) (sched : List Nat) (i : Nat) (p : Pub) (e : Nat)
    (hp : (run .fixed (init base pubs) sched).pubs[i]? = some p) (hd : p.pc = .done e) (hc : p.changes = false) :
    (∀ e', (i, e') ∉ (run .fixed (init base pubs) sched).hist) ∧ base ≤ e ∧
      e ≤ (run .fixed (init base pubs) sched).epoch := by
  have hI : Inv base (run .fixed (init base pubs) sched) := inv_reachable base pubs hf sched
  refine ⟨fun e' hmem => ?_, hI.hNoop i p e hp hd hc⟩
  obtain ⟨q, hq, _, hqc⟩ := hI.hHistDone i e' hmem
  cases hp.symm.trans hq
  cases hc.symm.trans hqc

/-- no deadlock: from every reachable state of the repaired protocol that is not finished, some
publisher is enabled -/
theorem progress (base : Nat) (pubs : List Pub) (hf : Fresh pubs) (sched : List Nat) :
    let s := run .fixed (init base pubs) sched
    finished s = false → ∃ i, (step .fixed s i).isSome := by
  intro s hfin
  have hI : Inv base s := inv_reachable base pubs hf sched
  cases hl : s.lock with
  | some h =>
    obtain ⟨p, hp, hc⟩ := hI.hLockCrit h hl
    exact ⟨h, enabled hp (.inl hc)⟩
  | none =>
    -- nobody holds the mutex: a publisher that has not returned is still at `start`
    obtain ⟨p, hmem, hnd⟩ := List.all_eq_false.1 hfin
    obtain ⟨i, hi, rfl⟩ := List.mem_iff_getElem.1 hmem
    have hp : s.pubs[i]? = some s.pubs[i] := List.getElem?_eq_getElem hi
    refine ⟨i, enabled hp (.inr ⟨?_, hl⟩)⟩
    have hnc : ¬ Crit s.pubs[i].pc := fun hc => nomatch hl.symm.trans (hI.hCritLock i _ hp hc)
    have hbad := hI.hNoBad i _ hp
    cases hpc : s.pubs[i].pc with
    | start => rfl
    | readRoot => exact absurd hpc hbad.2
    | refused => exact absurd hpc hbad.1
    | done e => simp [hpc] at hnd
    | _ => exact absurd (by simp [hpc]) hnc

/-- **the pinned commit loses an epoch**: two publishers, one schedule, both return epoch base+1 -/
theorem lost_epoch_witness :
    ∃ sched : List Nat,
      let s := run .legacy (init 0 [{}, {}]) sched
      finished s = true ∧ s.hist = [(1, 1), (0, 1)] ∧
      s.pubs.map (·.pc) = [.done 1, .done 1] :=
  ⟨[0, 0, 0, 0, 1, 1, 1, 1, 1, 1, 0, 0], by decide⟩

/-- a trace accepted by `validate` commits consecutive epochs -/
theorem validate_consecutive (base : Nat) (tr : List (Nat × Ev)) (v : VState)
    (h : validate base tr = .ok v) :
    (∀ k (hk : k < v.outcomes.length), (v.outcomes[k]).2 = base + k + 1) ∧ v.epoch = base + v.outcomes.length :=
  vinv_foldlM (v0 := { epoch := base }) tr ⟨nofun, rfl⟩ h

/-- three publishers (the second one a no-op, the third with three node reads), interleaved schedule
with blocked attempts: the no-op returns the epoch 5 it saw, the two effective batches commit 6 and 7 -/
example :
    let s := run .fixed (init 5 [{}, { changes := false }, { reads := 3 }])
      [1, 0, 2, 1, 0, 1, 0, 2, 0, 2, 0, 0, 2, 0, 0, 2, 1, 2, 2, 0, 2, 2, 2, 2, 2, 2]
    finished s = true ∧ s.hist = [(0, 6), (2, 7)] ∧ s.epoch = 7 ∧ s.lock = none ∧
      s.pubs.map (·.pc) = [.done 6, .done 5, .done 7] := by
  decide

/-- the same three publishers run one after the other -/
example :
    (run .fixed (init 0 [{}, {}, {}]) [2, 2, 2, 2, 2, 2, 0, 0, 0, 0, 0, 0, 1, 1, 1, 1, 1, 1]).hist = [(2, 1), (0, 2), (1, 3)] := by
  decide

/-- the schedule that breaks the pinned commit is harmless for the repaired protocol: publisher 1 is
blocked until publisher 0 has committed -/
example :
    let s := run .fixed (init 0 [{}, {}]) [0, 0, 0, 0, 1, 1, 1, 1, 1, 1, 0, 0, 1, 1, 1, 1, 1, 1]
    finished s = true ∧ s.hist = [(0, 1), (1, 2)] := by
  decide

private def okOf : Except String VState → Option (Nat × Option Nat × List (Nat × Nat))
  | .ok v => some (v.epoch, v.holder, v.outcomes)
  | .error _ => none

/-- an accepted trace: two tasks one after the other -/
example :
    okOf (validate 3 [(0, .getAzks 3), (0, .read), (0, .read), (0, .commit 4),
                      (1, .getAzks 4), (1, .read), (1, .commit 5)]) = some (5, none, [(0, 4), (1, 5)]) := by
  decide

/-- rejected: task 1 reads inside the critical section of task 0 -/
example : okOf (validate 3 [(0, .getAzks 3), (1, .getAzks 3), (0, .commit 4), (1, .commit 4)]) = none := by
  decide

/-- rejected: the lost-epoch trace of the pinned commit (both commits carry epoch 4) -/
example : okOf (validate 3 [(0, .getAzks 3), (0, .commit 4), (1, .commit 4)]) = none := by
  decide

/-- rejected: stale epoch read -/
example : okOf (validate 3 [(0, .getAzks 2)]) = none := by
  decide

/-- remark: the validator has no event for the return of a no-op publish (which issues no commit), so
it is conservative there: after a no-op publish of task 0 the next task is reported as overlapping -/
example : okOf (validate 3 [(0, .getAzks 3), (0, .read), (1, .getAzks 3), (1, .commit 4)]) = none := by
  decide

end Akd.Conc
