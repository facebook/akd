/-
C01 (part b) — the batch-insertion ALGORITHM of the code (`Insert.lean`: label-keyed storage,
versioned records, the sorted/unsorted element-set representations, decompression, bottom-up
re-hashing, `last_epoch` / `min_descendant_epoch` bookkeeping) computes the CANONICAL trie
(`CTrie.lean`) with the right digests and epoch metadata.

`Repr` relates what is in storage to a canonical tree.  The theorem is for arbitrary trees and
arbitrary batches (any size, any shared prefixes, labels of any length ≤ 256 — so it covers the
directory (256-bit VRF labels) and the auditor (sub-trie roots of any depth) alike), under both
hashing configurations and both insertion modes.
-/
import AkdModel.CTrie
import AkdModel.Insert
import AkdModel.Thm.C17
import AkdModel.Thm.C01a
import AkdModel.Lemmas.InsertRoot
namespace Akd.C01
open Akd

def hashMode : InsertMode → HashMode
  | .directory => .withLeafEpoch
  | .auditor => .noLeafEpoch

def CTree.maxEp : CTree → Nat
  | .leaf _ _ e => e
  | .node _ l r => max (CTree.maxEp l) (CTree.maxEp r)

def CTree.minEp : CTree → Nat
  | .leaf _ _ e => e
  | .node _ l r => min (CTree.minEp l) (CTree.minEp r)

/-- storage holds, under key `ofBits t.lbl`, a record whose latest version is the node `t`
(label, type, child pointers, stored hash, epoch metadata), and likewise for the whole sub-tree.
The `parent` field and the `previous` version are not constrained. -/
def Repr (c : Cfg) (m : InsertMode) (s : NodeStore) : CTree → Prop
  | .leaf q v e =>
    ∃ r, s.getRec (NodeLabel.ofBits q) = some r ∧ r.latest.label = NodeLabel.ofBits q ∧
      r.latest.nodeType = .leaf ∧ r.latest.left = none ∧ r.latest.right = none ∧
      r.latest.hash = v ∧ r.latest.lastEpoch = e ∧ r.latest.minDescEpoch = e
  | .node q l r' =>
    (∃ r, s.getRec (NodeLabel.ofBits q) = some r ∧ r.latest.label = NodeLabel.ofBits q ∧
      r.latest.nodeType = .interior ∧
      r.latest.left = some (NodeLabel.ofBits l.lbl) ∧ r.latest.right = some (NodeLabel.ofBits r'.lbl) ∧
      r.latest.hash = (CTree.node q l r').azks c (hashMode m) ∧
      r.latest.lastEpoch = CTree.maxEp (.node q l r') ∧ r.latest.minDescEpoch = CTree.minEp (.node q l r'))
    ∧ Repr c m s l ∧ Repr c m s r'

def optMax (a b : Option CTree) : Nat :=
  max ((a.map CTree.maxEp).getD 0) ((b.map CTree.maxEp).getD 0)

/-- the `0` sentinel of `set_child` (tree_node.rs:445-450) -/
def optMin (a b : Option CTree) : Nat :=
  match a, b with
  | none, none => 0
  | some x, none => CTree.minEp x
  | none, some y => CTree.minEp y
  | some x, some y => min (CTree.minEp x) (CTree.minEp y)

def ReprRoot (c : Cfg) (m : InsertMode) (s : NodeStore) (t : CRoot) : Prop :=
  (∃ r, s.getRec NodeLabel.root = some r ∧ r.latest.label = NodeLabel.root ∧ r.latest.nodeType = .root ∧
    r.latest.left = t.l.map (fun x => NodeLabel.ofBits x.lbl) ∧
    r.latest.right = t.r.map (fun x => NodeLabel.ofBits x.lbl) ∧
    r.latest.hash = t.value c (hashMode m) ∧
    r.latest.lastEpoch = optMax t.l t.r ∧ r.latest.minDescEpoch = optMin t.l t.r)
  ∧ (∀ a, t.l = some a → Repr c m s a) ∧ (∀ b, t.r = some b → Repr c m s b)

/-- the leaves a batch adds at epoch `ep` -/
def newLeaves (els : List (BitStr × Dig)) (ep : Nat) : List Leaf := els.map fun x => ⟨x.1, x.2, ep⟩

/-! ### bridge to the definitions used by the lemma files (`Lemmas/Insert*.lean`) -/

theorem hashMode_eq (m : InsertMode) : hashMode m = Ins.hm m := by cases m <;> rfl

theorem maxEp_eq : ∀ t : CTree, CTree.maxEp t = Ins.maxEp t
  | .leaf _ _ _ => rfl
  | .node _ l r => by simp only [CTree.maxEp, Ins.maxEp, maxEp_eq l, maxEp_eq r]

theorem minEp_eq : ∀ t : CTree, CTree.minEp t = Ins.minEp t
  | .leaf _ _ _ => rfl
  | .node _ l r => by simp only [CTree.minEp, Ins.minEp, minEp_eq l, minEp_eq r]

theorem repr_iff (c : Cfg) (m : InsertMode) (s : NodeStore) : ∀ t : CTree, Repr c m s t ↔ Ins.Rep c m s t
  | .leaf _ _ _ => Iff.rfl
  | .node q l r => by
    simp only [Repr, Ins.Rep, Ins.NodeIs, repr_iff c m s l, repr_iff c m s r, hashMode_eq, maxEp_eq, minEp_eq]

theorem optMax_eq (a b : Option CTree) : optMax a b = Ins.oMax a b := by
  cases a <;> cases b <;> simp [optMax, Ins.oMax, maxEp_eq]

theorem optMin_eq (a b : Option CTree) : optMin a b = Ins.oMin a b := by
  cases a <;> cases b <;> simp [optMin, Ins.oMin, minEp_eq]

theorem reprRoot_iff (c : Cfg) (m : InsertMode) (s : NodeStore) (t : CRoot) :
    ReprRoot c m s t ↔ Ins.RepRoot c m s t := by
  simp only [ReprRoot, Ins.RepRoot, repr_iff, hashMode_eq, optMax_eq, optMin_eq, Ins.olbl]

theorem newLeaves_eq (els : List (BitStr × Dig)) (ep : Nat) : newLeaves els ep = Ins.newLeaves els ep := rfl

theorem rootHash_of_reprRoot (c : Cfg) (m : InsertMode) (s : NodeStore) (t : CRoot) (ep n : Nat)
    (h : ReprRoot c m s t) (hle : ∀ lf ∈ t.leaves, lf.ep ≤ ep) :
    s.rootHash c ⟨ep, n⟩ = .ok (c.rootHash (t.value c (hashMode m))) := by
  obtain ⟨⟨r, hg, _, _, _, _, hh, hl, _⟩, _, _⟩ := h
  unfold NodeStore.rootHash
  rw [Ins.getNode_latest s _ r ep hg (by rw [hl, optMax_eq]; exact Ins.oMax_le _ _ _ hle)]
  simp only [hh]

theorem azksNew_repr (c : Cfg) (m : InsertMode) (s : NodeStore) :
    ∃ s', s.azksNew c = .ok (s', ⟨0, 1⟩) ∧ ReprRoot c m s' CRoot.empty := by
  refine ⟨s.setRec ⟨NodeLabel.root, TreeNode.newRoot c, none⟩, rfl,
    ⟨⟨⟨NodeLabel.root, TreeNode.newRoot c, none⟩, ?_, rfl, rfl, rfl, rfl, rfl, rfl, rfl⟩, ?_, ?_⟩⟩
  · exact NodeStore.getRec_setRec_self s ⟨NodeLabel.root, TreeNode.newRoot c, none⟩
  · intro a h; simp [CRoot.empty] at h
  · intro a h; simp [CRoot.empty] at h

theorem foldl_insert1_spec (t : CRoot) (hwf : t.WF) (els : List (BitStr × Dig)) (ep : Nat)
    (hpf : PrefixFree (t.leaves ++ newLeaves els ep))
    (hlen : ∀ lf ∈ t.leaves ++ newLeaves els ep, 1 ≤ lf.lbl.length ∧ lf.lbl.length ≤ 256) :
    ((newLeaves els ep).foldl CRoot.insert1 t).WF ∧
      ((newLeaves els ep).foldl CRoot.insert1 t).leaves.Perm (t.leaves ++ newLeaves els ep) :=
  Canon.Root.foldl_insert1_spec (newLeaves els ep) t hwf hpf (fun x hx h => by
    have := (hlen x (List.mem_append_right _ hx)).1
    rw [h] at this
    simp at this)

/-- the refinement, for a tree whose leaves may already be of the epoch being inserted, together with what the
induction over `insertRec` tells about the store: an invariant `I` that the writes of an insertion keep
(`Ins.WriteInv`) is kept, only keys of nodes of the new tree change, and the labels of the old tree are labels of the
new one -/
theorem batchInsert_spec {K : BitStr → Prop} {I : NodeStore → Prop}
    (c : Cfg) (hc : c.emptyLabel.len = 0) (m : InsertMode)
    (s : NodeStore) (a : Azks) (t : CRoot)
    (hrep : ReprRoot c m s t) (hwf : t.WF)
    (hep : ∀ lf ∈ t.leaves, 1 ≤ lf.ep ∧ lf.ep ≤ a.latestEpoch + 1)
    (els : List (BitStr × Dig))
    (hpf : PrefixFree (t.leaves ++ newLeaves els (a.latestEpoch + 1)))
    (hlen : ∀ lf ∈ t.leaves ++ newLeaves els (a.latestEpoch + 1), 1 ≤ lf.lbl.length ∧ lf.lbl.length ≤ 256)
    (hI : Ins.WriteInv (a.latestEpoch + 1) K I) (hs : I s)
    (hgk : ∀ d : Bool, Ins.GK K [d] (if d then t.r else t.l)) :
    ∃ s' n, s.batchInsert c m a (els.map fun x => (NodeLabel.ofBits x.1, x.2))
        = .ok (s', ⟨a.latestEpoch + 1, n⟩) ∧
      ReprRoot c m s' ((newLeaves els (a.latestEpoch + 1)).foldl CRoot.insert1 t) ∧ I s' ∧
      Ins.Chg s s' (Ins.RootK ((newLeaves els (a.latestEpoch + 1)).foldl CRoot.insert1 t)) ∧
      ∀ q, Ins.RootK t q → Ins.RootK ((newLeaves els (a.latestEpoch + 1)).foldl CRoot.insert1 t) q := by
  obtain ⟨s', n, t', hrun, hrep', hwf', hperm, hs', hchg, hold⟩ :=
    Ins.batchInsert_root c hc m s a t ((reprRoot_iff c m s t).1 hrep) hwf hep els hpf hlen hI hs hgk
  obtain ⟨fw, fp⟩ := foldl_insert1_spec t hwf els _ hpf hlen
  obtain rfl : t' = (newLeaves els (a.latestEpoch + 1)).foldl CRoot.insert1 t :=
    wf_unique _ _ hwf' fw (hperm.trans fp.symm)
  exact ⟨s', n, hrun, (reprRoot_iff c m s' _).2 hrep', hs', hchg, hold⟩

/-- **the refinement theorem** -/
theorem batchInsert_refines (c : Cfg) (hc : c.emptyLabel.len = 0) (m : InsertMode)
    (s : NodeStore) (a : Azks) (t : CRoot)
    (hrep : ReprRoot c m s t) (hwf : t.WF)
    (hep : ∀ lf ∈ t.leaves, 1 ≤ lf.ep ∧ lf.ep ≤ a.latestEpoch)
    (els : List (BitStr × Dig))
    (hpf : PrefixFree (t.leaves ++ newLeaves els (a.latestEpoch + 1)))
    (hlen : ∀ lf ∈ t.leaves ++ newLeaves els (a.latestEpoch + 1), 1 ≤ lf.lbl.length ∧ lf.lbl.length ≤ 256) :
    ∃ s' n, s.batchInsert c m a (els.map fun x => (NodeLabel.ofBits x.1, x.2))
        = .ok (s', ⟨a.latestEpoch + 1, n⟩) ∧
      ReprRoot c m s' ((newLeaves els (a.latestEpoch + 1)).foldl CRoot.insert1 t) := by
  obtain ⟨s', n, hrun, hrep', _⟩ := batchInsert_spec c hc m s a t hrep hwf
    (fun lf h => ⟨(hep lf h).1, Nat.le_succ_of_le (hep lf h).2⟩) els hpf hlen
    (Ins.WriteInv.trivial _) trivial (fun _ _ h => h.elim)
  exact ⟨s', n, hrun, hrep'⟩

/-- both configurations satisfy the side condition -/
theorem emptyLabel_len (c : Cfg) (h : c = Cfg.whatsappV1 ∨ c = Cfg.experimental) : c.emptyLabel.len = 0 := by
  rcases h with rfl | rfl <;> rfl

theorem foldl_ep_le (t : CRoot) (hwf : t.WF) (a : Azks)
    (hep : ∀ lf ∈ t.leaves, 1 ≤ lf.ep ∧ lf.ep ≤ a.latestEpoch)
    (els : List (BitStr × Dig))
    (hpf : PrefixFree (t.leaves ++ newLeaves els (a.latestEpoch + 1)))
    (hlen : ∀ lf ∈ t.leaves ++ newLeaves els (a.latestEpoch + 1), 1 ≤ lf.lbl.length ∧ lf.lbl.length ≤ 256) :
    ∀ lf ∈ ((newLeaves els (a.latestEpoch + 1)).foldl CRoot.insert1 t).leaves, lf.ep ≤ a.latestEpoch + 1 := by
  intro lf h
  rcases List.mem_append.1 ((foldl_insert1_spec t hwf els _ hpf hlen).2.mem_iff.1 h) with h | h
  · have := (hep lf h).2; omega
  · obtain ⟨b, _, rfl⟩ := List.mem_map.1 h
    exact Nat.le_refl _

/-- corollary: the published root hash after the batch is the canonical one -/
theorem batchInsert_rootHash (c : Cfg) (hc : c.emptyLabel.len = 0)
    (s : NodeStore) (a : Azks) (t : CRoot)
    (hrep : ReprRoot c .directory s t) (hwf : t.WF)
    (hep : ∀ lf ∈ t.leaves, 1 ≤ lf.ep ∧ lf.ep ≤ a.latestEpoch)
    (els : List (BitStr × Dig))
    (hpf : PrefixFree (t.leaves ++ newLeaves els (a.latestEpoch + 1)))
    (hlen : ∀ lf ∈ t.leaves ++ newLeaves els (a.latestEpoch + 1), 1 ≤ lf.lbl.length ∧ lf.lbl.length ≤ 256) :
    ∃ s' a', s.batchInsert c .directory a (els.map fun x => (NodeLabel.ofBits x.1, x.2)) = .ok (s', a') ∧
      s'.rootHash c a' = .ok (((newLeaves els (a.latestEpoch + 1)).foldl CRoot.insert1 t).rootHash c) := by
  obtain ⟨s', n, hrun, hrep'⟩ := batchInsert_refines c hc .directory s a t hrep hwf hep els hpf hlen
  exact ⟨s', _, hrun, rootHash_of_reprRoot c .directory s' _ _ n hrep' (foldl_ep_le t hwf a hep els hpf hlen)⟩

/-- corollary (C14): the order of the batch does not matter -/
theorem batchInsert_perm (c : Cfg) (hc : c.emptyLabel.len = 0) (m : InsertMode)
    (s : NodeStore) (a : Azks) (t : CRoot)
    (hrep : ReprRoot c m s t) (hwf : t.WF)
    (hep : ∀ lf ∈ t.leaves, 1 ≤ lf.ep ∧ lf.ep ≤ a.latestEpoch)
    (els els' : List (BitStr × Dig)) (hperm : els.Perm els')
    (hpf : PrefixFree (t.leaves ++ newLeaves els (a.latestEpoch + 1)))
    (hlen : ∀ lf ∈ t.leaves ++ newLeaves els (a.latestEpoch + 1), 1 ≤ lf.lbl.length ∧ lf.lbl.length ≤ 256) :
    ∃ s₁ s₂ a₁ a₂,
      s.batchInsert c m a (els.map fun x => (NodeLabel.ofBits x.1, x.2)) = .ok (s₁, a₁) ∧
      s.batchInsert c m a (els'.map fun x => (NodeLabel.ofBits x.1, x.2)) = .ok (s₂, a₂) ∧
      s₁.rootHash c a₁ = s₂.rootHash c a₂ ∧ a₁.latestEpoch = a₂.latestEpoch := by
  have hpl : (t.leaves ++ newLeaves els (a.latestEpoch + 1)).Perm (t.leaves ++ newLeaves els' (a.latestEpoch + 1)) :=
    List.Perm.append_left _ (hperm.map _)
  have hpf' : PrefixFree (t.leaves ++ newLeaves els' (a.latestEpoch + 1)) :=
    (hpl.pairwise_iff Canon.Incomp.symm).1 hpf
  have hlen' : ∀ lf ∈ t.leaves ++ newLeaves els' (a.latestEpoch + 1), 1 ≤ lf.lbl.length ∧ lf.lbl.length ≤ 256 :=
    fun lf h => hlen lf (hpl.mem_iff.2 h)
  obtain ⟨s₁, n₁, hrun₁, hrep₁⟩ := batchInsert_refines c hc m s a t hrep hwf hep els hpf hlen
  obtain ⟨s₂, n₂, hrun₂, hrep₂⟩ := batchInsert_refines c hc m s a t hrep hwf hep els' hpf' hlen'
  obtain ⟨w₁, p₁⟩ := foldl_insert1_spec t hwf els _ hpf hlen
  obtain ⟨w₂, p₂⟩ := foldl_insert1_spec t hwf els' _ hpf' hlen'
  have heq : (newLeaves els (a.latestEpoch + 1)).foldl CRoot.insert1 t
      = (newLeaves els' (a.latestEpoch + 1)).foldl CRoot.insert1 t :=
    wf_unique _ _ w₁ w₂ ((p₁.trans hpl).trans p₂.symm)
  refine ⟨s₁, s₂, _, _, hrun₁, hrun₂, ?_, rfl⟩
  rw [rootHash_of_reprRoot c m s₁ _ _ n₁ hrep₁ (foldl_ep_le t hwf a hep els hpf hlen),
    rootHash_of_reprRoot c m s₂ _ _ n₂ hrep₂ (foldl_ep_le t hwf a hep els' hpf' hlen'), heq]

/-! non-vacuity: a first batch (labels of different lengths) into the freshly created tree -/
example (c : Cfg) (hc : c.emptyLabel.len = 0) (m : InsertMode) (s : NodeStore) :
    ∃ s₀ s' n, s.azksNew c = .ok (s₀, ⟨0, 1⟩) ∧
      s₀.batchInsert c m ⟨0, 1⟩ ([([false, true], Dig.raw [1]), ([true], Dig.raw [2])].map
        fun x => (NodeLabel.ofBits x.1, x.2)) = .ok (s', ⟨1, n⟩) ∧
      ReprRoot c m s' (CRoot.ofLeaves [⟨[false, true], .raw [1], 1⟩, ⟨[true], .raw [2], 1⟩]) := by
  obtain ⟨s₀, h0, hr0⟩ := azksNew_repr c m s
  obtain ⟨s', n, h1, hr1⟩ := batchInsert_refines c hc m s₀ ⟨0, 1⟩ CRoot.empty hr0 Canon.Root.empty_wf
    (by simp [CRoot.empty, CRoot.leaves]) [([false, true], Dig.raw [1]), ([true], Dig.raw [2])]
    (by simp [PrefixFree, CRoot.empty, CRoot.leaves, newLeaves])
    (by simp [CRoot.empty, CRoot.leaves, newLeaves])
  exact ⟨s₀, s', n, h0, h1, hr1⟩

end Akd.C01
