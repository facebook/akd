/-
C09 — an accepted audit proof implies nothing committed earlier was removed or altered.

`T₁`, `T₂` are the (well-formed) tries whose root hashes are the consecutive published hashes; the
single-epoch proof `p` is ANY value.  The auditor model is `Auditor.consecutive` (`Verify.lean`):
the repaired code (fix D2: node labels well-formed and pairwise prefix-free), which rebuilds two
trees with the real insertion algorithm (`NodeStore.batchInsert` in auditor mode) — so the theorem
goes through the refinement theorem `C01.batchInsert_refines`.
-/
import AkdModel.Verify
import AkdModel.Thm.C01b
import AkdModel.Thm.C05
import AkdModel.Lemmas.AuditLemmas
namespace Akd.C09
open Akd

/-- the root hash of a trie whose leaves are hashed in mode `m` -/
def rootHashM (c : Cfg) (m : HashMode) (t : CRoot) : Dig := c.rootHash (t.value c m)

/-- elements as opaque leaves (the epoch is irrelevant in `noLeafEpoch` mode) -/
def asLeaves (els : List (BitStr × Dig)) (ep : Nat) : List Leaf := els.map fun x => ⟨x.1, x.2, ep⟩

/-- the auditor's rebuild computes the canonical trie over the node set (for well-formed,
prefix-free labels): an instance of the refinement theorem -/
theorem rebuildRoot_canonical (c : Cfg) (hc : c.emptyLabel.len = 0) (els : List (BitStr × Dig))
    (latest : Option Nat)
    (hpf : C01.PrefixFree (asLeaves els 0))
    (hlen : ∀ x ∈ els, 1 ≤ x.1.length ∧ x.1.length ≤ 256) :
    Auditor.rebuildRoot c (els.map fun x => ⟨NodeLabel.ofBits x.1, x.2⟩) latest
      = .ok (rootHashM c .noLeafEpoch (CRoot.ofLeaves (asLeaves els 0))) :=
  Aud.rebuildRoot_canonical c hc els latest hpf hlen

/-- the check added by the repair accepts exactly the well-formed prefix-free label sets -/
theorem labelsPrefixFree_iff (ls : List NodeLabel) :
    Auditor.labelsPrefixFree ls = true ↔
      (∀ l ∈ ls, l.len ≤ 256 ∧ l.Normalised) ∧
      ls.Pairwise (fun a b => ¬ a.bits <+: b.bits ∧ ¬ b.bits <+: a.bits) :=
  Aud.labelsPrefixFree_iff ls

/-- **audit soundness, one epoch** (full strength for the repaired auditor) -/
theorem audit_sound (c : Cfg) (hc : c.Lawful) (hce : c.emptyLabel.len = 0) (hfresh : C05.EmptyLabelFresh c)
    (T₁ T₂ : CRoot) (h₁ : T₁.WF) (h₂ : T₂.WF)
    (hl₁ : ∀ lf ∈ T₁.leaves, lf.lbl.length ≤ 256) (hl₂ : ∀ lf ∈ T₂.leaves, lf.lbl.length ≤ 256)
    (p : NodeStore.SingleAppendOnlyProof) (e : Nat)
    (hacc : Auditor.consecutive c p (T₁.rootHash c) (T₂.rootHash c) e = .ok ()) :
    ∀ lf ∈ T₁.leaves, lf ∈ T₂.leaves := by
  obtain ⟨hlpf, hr₁, _, hr₂⟩ := (Aud.consecutive_ok c p _ _ e).mp hacc
  by_cases hpos : ∀ l ∈ (p.unchanged ++ p.inserted).map (·.label), 1 ≤ l.len
  · -- both rebuilds are canonical tries of opaque elements, the second over a larger set
    have g : Aud.Good (p.unchanged ++ p.inserted) := (Aud.good_iff _).mpr ⟨hlpf, hpos⟩
    have gU : Aud.Good p.unchanged := g.sublist (List.sublist_append_left _ _)
    have gA : Aud.Good (p.unchanged ++ p.inserted.map (Aud.rehash c e)) := g.of_labels (by
      simp only [List.map_append, List.map_map]
      rfl)
    rw [gU.rebuild c hce none] at hr₁
    rw [gA.rebuild c hce (some (e - 1))] at hr₂
    refine Aud.audit_core c hc hfresh _ _ T₁ T₂ gU.spec.1 gA.spec.1 h₁ h₂ gU.len_le gA.len_le hl₁ hl₂
      (hc.root_inj _ _ (Except.ok.inj hr₁)) (hc.root_inj _ _ (Except.ok.inj hr₂)) fun x hx => ?_
    apply gA.spec.2.mem_iff.mpr
    rw [List.map_append]
    exact List.mem_append_left _ (gU.spec.2.mem_iff.mp hx)
  · -- some element carries the empty bit string: it is alone
    obtain ⟨hN, hpw⟩ := (labelsPrefixFree_iff _).mp hlpf
    rw [List.pairwise_map] at hpw
    simp only [List.forall_mem_map, Classical.not_forall] at hpos hN
    obtain ⟨n, hn, hn0⟩ := hpos
    have hroot : n.label = NodeLabel.root := Aud.normalised_len0 n.label (by omega) (hN n hn).2
    have hsing := Aud.singleton_of_nil hpw hn (by rw [hroot]; rfl)
    obtain ⟨v, rfl⟩ : ∃ v, n = ⟨NodeLabel.root, v⟩ := ⟨n.value, by rw [← hroot]⟩
    rcases List.append_eq_singleton_iff.mp hsing with ⟨hU, _⟩ | ⟨hU, _⟩
    · -- nothing unchanged: the first trie is empty
      rw [hU, (Aud.Good.mk (by simp) (by simp) .nil : Aud.Good []).rebuild c hce none] at hr₁
      have he : c.emptyRootValue = T₁.value c .withLeafEpoch := hc.root_inj _ _ (Except.ok.inj hr₁)
      rcases CRoot.not_empty_cases T₁ with he' | he'
      · obtain ⟨l, r⟩ := T₁
        obtain ⟨rfl, rfl⟩ := he'
        exact fun _ h => nomatch h
      · rw [CRoot.value_eq_parent c _ T₁ he'] at he
        exact absurd he.symm (hc.parent_ne_emptyRoot _ _ _ _)
    · -- it is the unchanged element: the first rebuild does not give the root hash of a trie
      rw [hU, Aud.rebuildRoot_rootLabel] at hr₁
      exact absurd (hc.root_inj _ _ (Except.ok.inj hr₁)).symm (Aud.value_ne_emptySlots c hc T₁)

/-- … lifted to `audit_verify` over any number of epochs: with `hashes[i]` the root hash of `Ts[i]` -/
theorem audit_verify_sound (c : Cfg) (hc : c.Lawful) (hce : c.emptyLabel.len = 0) (hfresh : C05.EmptyLabelFresh c)
    (Ts : List CRoot) (hwf : ∀ t ∈ Ts, t.WF ∧ ∀ lf ∈ t.leaves, lf.lbl.length ≤ 256)
    (p : NodeStore.AppendOnlyProof)
    (hacc : Auditor.verify c (Ts.map (CRoot.rootHash c)) p = .ok ()) :
    ∀ (i j : Nat), i ≤ j → ∀ (t₁ t₂ : CRoot), Ts[i]? = some t₁ → Ts[j]? = some t₂ → ∀ lf ∈ t₁.leaves, lf ∈ t₂.leaves := by
  obtain ⟨h1, h2, hgo⟩ := (Aud.verify_ok c _ p).mp hacc
  rw [List.length_map] at h1
  have step : ∀ i t₁ t₂, Ts[i]? = some t₁ → Ts[i + 1]? = some t₂ → ∀ lf ∈ t₁.leaves, lf ∈ t₂.leaves := by
    intro i t₁ t₂ hi hj
    have hlt : i + 1 < Ts.length := (List.getElem?_eq_some_iff.mp hj).1
    have w₁ := hwf t₁ (List.mem_of_getElem? hi)
    have w₂ := hwf t₂ (List.mem_of_getElem? hj)
    have hp : i < p.proofs.length := by omega
    have he : i < p.epochs.length := by omega
    exact audit_sound c hc hce hfresh t₁ t₂ w₁.1 w₂.1 w₁.2 w₂.2 (p.proofs[i]'hp) ((p.epochs[i]'he) + 1) (hgo i _ _ _ _
      (by rw [List.getElem?_map, hi]; rfl) (by rw [List.getElem?_map, hj]; rfl)
      (List.getElem?_eq_getElem hp) (List.getElem?_eq_getElem he))
  intro i j hij
  induction hij with
  | refl =>
    intro t₁ t₂ hi hj lf hlf
    rw [hi] at hj
    cases hj
    exact hlf
  | @step m _ ih =>
    intro t₁ t₂ hi hj lf hlf
    have hm : m < Ts.length := by
      have := (List.getElem?_eq_some_iff.mp hj).1
      omega
    exact step m Ts[m] t₂ (List.getElem?_eq_getElem hm) hj lf
      (ih t₁ Ts[m] hi (List.getElem?_eq_getElem hm) lf hlf)

theorem length_mismatch_rejected (c : Cfg) (hashes : List Dig) (p : NodeStore.AppendOnlyProof)
    (h : p.epochs.length + 1 ≠ hashes.length ∨ p.epochs.length ≠ p.proofs.length) :
    Auditor.verify c hashes p ≠ .ok () := by
  intro h'
  obtain ⟨h1, h2, _⟩ := (Aud.verify_ok c hashes p).mp h'
  exact h.elim (· h1) (· h2)

/-- replacing a root hash by a different value makes verification fail -/
theorem root_substitution_rejected (c : Cfg) (p : NodeStore.SingleAppendOnlyProof) (s e e' : Dig) (ep : Nat)
    (h : e ≠ e') :
    ¬ (Auditor.consecutive c p s e ep = .ok () ∧ Auditor.consecutive c p s e' ep = .ok ()) := by
  rintro ⟨h1, h2⟩
  have a := ((Aud.consecutive_ok c p s e ep).mp h1).2.2.2
  have b := ((Aud.consecutive_ok c p s e' ep).mp h2).2.2.2
  rw [a] at b
  exact h (Except.ok.inj b)

/-! ## the auditor of the pinned commit was not sound (defect D2) -/

/-- unchanged = {node "0", leaf "1…"}, inserted = {a leaf extending "0"}: the sub-trie under "0"
silently disappears from the rebuilt tree, and the proof verifies against that tree's root hash. -/
def d2T1 : CRoot :=
  CRoot.ofLeaves [⟨[false, false], .raw [1], 1⟩, ⟨[false, true], .raw [2], 1⟩, ⟨[true], .raw [3], 1⟩]

/-- the tree the server publishes next: only a new leaf under "0" (the two old leaves are GONE) and "1" -/
def d2T2Hash (c : Cfg) : Dig :=
  match Auditor.rebuildRoot c
      [⟨NodeLabel.ofBits [false], (match d2T1.l with | some t => t.azks c .withLeafEpoch | none => .raw []),⟩,
       ⟨NodeLabel.ofBits [true], c.leafHash (.raw [3]) 1⟩,
       ⟨NodeLabel.ofBits [false, false, false, true], c.leafHash (.raw [9]) 2⟩] (some 1) with
  | .ok h => h
  | .error _ => .raw []

def d2Proof (c : Cfg) : NodeStore.SingleAppendOnlyProof :=
  { unchanged := [⟨NodeLabel.ofBits [false], (match d2T1.l with | some t => t.azks c .withLeafEpoch | none => .raw [])⟩,
                  ⟨NodeLabel.ofBits [true], c.leafHash (.raw [3]) 1⟩],
    inserted := [⟨NodeLabel.ofBits [false, false, false, true], .raw [9]⟩] }

open NodeLabel in
/-- the first rebuild, of the unchanged nodes, is an instance of `rebuildRoot_canonical`: the node "0" stands for the
sub-trie below it -/
theorem d2_unchanged (c : Cfg) (hc : c.emptyLabel.len = 0) :
    Auditor.rebuildRoot c (d2Proof c).unchanged none = .ok (d2T1.rootHash c) :=
  rebuildRoot_canonical c hc
    [([false], (match d2T1.l with | some t => t.azks c .withLeafEpoch | none => .raw [])),
      ([true], c.leafHash (.raw [3]) 1)] none (by simp [C01.PrefixFree, asLeaves]) (by simp)

open NodeLabel in
theorem labelsPrefixFree_false {a b : BitStr} {ls : List NodeLabel} (ha : a.length ≤ 256) (hb : b.length ≤ 256)
    (hab : a <+: b) (hm : ofBits b ∈ ls) : Auditor.labelsPrefixFree (ofBits a :: ls) = false :=
  Bool.eq_false_iff.2 fun h => by
    have h1 := (List.pairwise_cons.1 ((labelsPrefixFree_iff _).1 h).2).1 _ hm
    rw [C17.bits_ofBits a ha, C17.bits_ofBits b hb] at h1
    exact h1.1 hab

theorem rejected_of_not_prefixFree (c : Cfg) (p : NodeStore.SingleAppendOnlyProof) (s e : Dig) (ep : Nat)
    (h : Auditor.labelsPrefixFree ((p.unchanged ++ p.inserted).map (·.label)) = false) :
    Auditor.consecutive c p s e ep ≠ .ok () :=
  fun hk => by
    rw [((Aud.consecutive_ok c p s e ep).1 hk).1] at h
    cases h

/-- the second rebuild, of a node set that is NOT prefix-free, is outside the refinement theorem; but the rebuild fails
on no node set, and `d2T2Hash` is whatever it returns -/
theorem d2_accepted (c : Cfg) (hc : c.emptyLabel.len = 0) :
    Auditor.consecutiveLegacy c (d2Proof c) (d2T1.rootHash c) (d2T2Hash c) 2 = .ok () := by
  obtain ⟨r, hr⟩ := Aud.rebuildRoot_total c hc
    [([false], (match d2T1.l with | some t => t.azks c .withLeafEpoch | none => .raw [])),
      ([true], c.leafHash (.raw [3]) 1), ([false, false, false, true], c.leafHash (.raw [9]) 2)] (some 1) (by simp)
  simp only [List.map_cons, List.map_nil] at hr
  refine (Aud.consecutiveLegacy_ok ..).2 ⟨d2_unchanged c hc, by decide, ?_⟩
  unfold d2T2Hash
  rw [hr]
  exact hr

theorem audit_unsound_witness :
    Auditor.consecutiveLegacy Cfg.whatsappV1 (d2Proof Cfg.whatsappV1) (d2T1.rootHash Cfg.whatsappV1)
        (d2T2Hash Cfg.whatsappV1) 2 = .ok () ∧
    Auditor.consecutiveLegacy Cfg.experimental (d2Proof Cfg.experimental) (d2T1.rootHash Cfg.experimental)
        (d2T2Hash Cfg.experimental) 2 = .ok () :=
  ⟨d2_accepted _ rfl, d2_accepted _ rfl⟩

/-- the repaired auditor rejects it -/
theorem audit_witness_rejected :
    Auditor.consecutive Cfg.whatsappV1 (d2Proof Cfg.whatsappV1) (d2T1.rootHash Cfg.whatsappV1)
        (d2T2Hash Cfg.whatsappV1) 2 ≠ .ok () :=
  rejected_of_not_prefixFree _ _ _ _ _
    (labelsPrefixFree_false (a := [false]) (b := [false, false, false, true]) (by decide) (by decide) (by decide)
      (by simp [d2Proof]))

/-! ### a stronger witness: the end hash is the root hash of a WELL-FORMED trie

`d2T2Hash` above is the hash of a non-canonical tree (the rebuilt node "0" has a single child), so
the witness above does not contradict the conclusion of `audit_sound` literally.  This one does:
both hashes are root hashes of well-formed tries, the legacy auditor accepts, and two leaves of the
first trie are missing from the second. -/

def d2T2wf : CRoot :=
  CRoot.ofLeaves [⟨[false, false, false], .raw [9], 2⟩, ⟨[false, true, true], .raw [10], 2⟩, ⟨[true], .raw [3], 1⟩]

def d2ProofWf (c : Cfg) : NodeStore.SingleAppendOnlyProof :=
  { unchanged := (d2Proof c).unchanged,
    inserted := [⟨NodeLabel.ofBits [false, false, false], .raw [9]⟩,
                 ⟨NodeLabel.ofBits [false, true, true], .raw [10]⟩] }

/-- the second rebuild drops the node "0" and is then the canonical trie over "1", "000", "011" -/
theorem d2wf_accepted (c : Cfg) (hc : c.emptyLabel.len = 0) :
    Auditor.consecutiveLegacy c (d2ProofWf c) (d2T1.rootHash c) (d2T2wf.rootHash c) 2 = .ok () := by
  let n1 : BitStr × Dig := ([true], c.leafHash (.raw [3]) 1)
  let n000 : BitStr × Dig := ([false, false, false], c.leafHash (.raw [9]) 2)
  let n011 : BitStr × Dig := ([false, true, true], c.leafHash (.raw [10]) 2)
  refine (Aud.consecutiveLegacy_ok ..).2 ⟨d2_unchanged c hc, by decide, ?_⟩
  exact (Aud.rebuildRoot_drop c hc _ [n1, n000, n011] (some 1) (by simp [n1, n000, n011]) n1 n000 (by simp) (by simp)
      (by simp [n1, n000]) (Nat.le_refl 2) rfl).trans
    (rebuildRoot_canonical c hc [n1, n000, n011] (some 1) (by simp [C01.PrefixFree, asLeaves, n1, n000, n011])
      (by simp [n1, n000, n011]))

theorem audit_unsound_witness_wf :
    d2T1.WF ∧ d2T2wf.WF ∧
    Auditor.consecutiveLegacy Cfg.whatsappV1 (d2ProofWf Cfg.whatsappV1) (d2T1.rootHash Cfg.whatsappV1)
        (d2T2wf.rootHash Cfg.whatsappV1) 2 = .ok () ∧
    Auditor.consecutiveLegacy Cfg.experimental (d2ProofWf Cfg.experimental) (d2T1.rootHash Cfg.experimental)
        (d2T2wf.rootHash Cfg.experimental) 2 = .ok () ∧
    (∃ lf ∈ d2T1.leaves, lf ∉ d2T2wf.leaves) :=
  ⟨by decide, by decide, d2wf_accepted _ rfl, d2wf_accepted _ rfl, ⟨[false, false], .raw [1], 1⟩, by decide, by decide⟩

theorem audit_witness_wf_rejected :
    Auditor.consecutive Cfg.whatsappV1 (d2ProofWf Cfg.whatsappV1) (d2T1.rootHash Cfg.whatsappV1)
        (d2T2wf.rootHash Cfg.whatsappV1) 2 ≠ .ok () ∧
    Auditor.consecutive Cfg.experimental (d2ProofWf Cfg.experimental) (d2T1.rootHash Cfg.experimental)
        (d2T2wf.rootHash Cfg.experimental) 2 ≠ .ok () := by
  have h : ∀ c : Cfg, Auditor.labelsPrefixFree
      (((d2ProofWf c).unchanged ++ (d2ProofWf c).inserted).map (·.label)) = false := fun c =>
    labelsPrefixFree_false (a := [false]) (b := [false, false, false]) (by decide) (by decide) (by decide)
      (by simp [d2ProofWf, d2Proof])
  exact ⟨rejected_of_not_prefixFree _ _ _ _ _ (h _), rejected_of_not_prefixFree _ _ _ _ _ (h _)⟩

end Akd.C09
