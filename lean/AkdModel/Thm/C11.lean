/-
C11 — a reader of a partially written commit still sees the previous epoch intact.

`s` is storage consistent at epoch `e` (it represents the trie `t`, every record is of an epoch
`≤ e`, no transaction open).  A publish inserts a batch at epoch `e+1` inside a transaction; the
commit writes the transaction log's records to the database with the directory's epoch record
LAST.  For ANY sub-collection `W` of those node records that has reached the database (any prefix of
any order, any subset), every node that existed before reads — as of epoch `e` — exactly as it did
before (modulo the `parent` field, which no proof reads); once everything is written the new tree is
there.

`ReprRoot` and `AtEpoch` say nothing about records the database may hold under keys the tree does not
use, nor that a record is stored under its node's label (the model's `NodeMap` does not enforce it);
three statements carry the corresponding hypothesis (each is false without it, by a run of the
executable model): `partial_commit_invisible` is for the keys of the nodes of `t` (`nodeKeys`; the
all-keys form `partial_commit_invisible_all` assumes the database holds nothing else),
`full_commit_visible` assumes `AtEpoch` before the publish, `new_keys_invisible` assumes `WellKeyed`.
-/
import AkdModel.Insert
import AkdModel.Thm.C01b
import AkdModel.Thm.C13
import AkdModel.Lemmas.PartialView
namespace Akd.C11
open Akd C01

/-- what a reader targeting epoch `e` sees under key `k` -/
def viewAt (m : NodeMap) (e : Nat) (k : NodeLabel) : Option TreeNode :=
  match m.get? k with
  | some r => match r.resolve e with
    | .ok n => some (C13.eraseParent n)
    | .error _ => none
  | none => none

/-- the database after the records `W` (some of the commit's node records) have been written -/
def applyWrites (db : NodeMap) (W : List NodeRec) : NodeMap := W.foldl NodeMap.set db

/-- every record in the database is of an epoch `≤ e` -/
def AtEpoch (db : NodeMap) (e : Nat) : Prop := ∀ k r, db.get? k = some r → r.latest.lastEpoch ≤ e

/-- the labels of the nodes of a (sub-)tree -/
def treeLabels : CTree → List BitStr
  | .leaf q _ _ => [q]
  | .node q l r => q :: (treeLabels l ++ treeLabels r)

/-- the storage keys of the nodes of `t`: the root and every node of its sub-trees -/
def nodeKeys (t : CRoot) : List NodeLabel :=
  NodeLabel.root ::
    (((t.l.map treeLabels).getD [] ++ (t.r.map treeLabels).getD []).map NodeLabel.ofBits)

theorem treeLabels_eq : ∀ t : CTree, treeLabels t = Ins.lbls t
  | .leaf _ _ _ => rfl
  | .node _ l r => by simp only [treeLabels, Ins.lbls, treeLabels_eq l, treeLabels_eq r]

theorem nodeKeys_eq (t : CRoot) :
    nodeKeys t = NodeLabel.root :: (Ins.olbls t.l ++ Ins.olbls t.r).map NodeLabel.ofBits := by
  rw [nodeKeys, funext treeLabels_eq]
  rfl

theorem nodeKeys_rootK {t : CRoot} {k : NodeLabel} (h : k ∈ nodeKeys t) :
    ∃ q, Ins.RootK t q ∧ k = NodeLabel.ofBits q := by
  rw [nodeKeys_eq, List.mem_cons, List.mem_map] at h
  rcases h with rfl | ⟨q, hq, rfl⟩
  · exact ⟨[], .inl rfl, NodeLabel.ofBits_nil.symm⟩
  · exact ⟨q, .inr hq, rfl⟩

/-- **partial commits are invisible at the previous epoch**

(the conclusion is for the keys of the nodes of `t` (`hk`), not for every key of the
database — a stray record that sits in the database under a key the tree does not use, e.g. the label
of an interior node this very batch creates, is overwritten by a record that starts at the new epoch) -/
theorem partial_commit_invisible (c : Cfg) (hc : c.emptyLabel.len = 0)
    (s : NodeStore) (a : Azks) (t : CRoot)
    (hidle : s.inTxn = false ∧ s.log = [])
    (hrep : ReprRoot c .directory s t) (hwf : t.WF)
    (hat : AtEpoch s.db a.latestEpoch)
    (hep : ∀ lf ∈ t.leaves, 1 ≤ lf.ep ∧ lf.ep ≤ a.latestEpoch)
    (els : List (BitStr × Dig))
    (hpf : PrefixFree (t.leaves ++ newLeaves els (a.latestEpoch + 1)))
    (hlen : ∀ lf ∈ t.leaves ++ newLeaves els (a.latestEpoch + 1), 1 ≤ lf.lbl.length ∧ lf.lbl.length ≤ 256)
    (s' : NodeStore) (a' : Azks)
    (hins : s.begin.batchInsert c .directory a (els.map fun x => (NodeLabel.ofBits x.1, x.2)) = .ok (s', a'))
    (W : List NodeRec) (hW : ∀ r ∈ W, ∃ k, s'.log.get? k = some r) :
    ∀ k, k ∈ nodeKeys t → (s.db.get? k).isSome →
      viewAt (applyWrites s.db W) a.latestEpoch k = viewAt s.db a.latestEpoch k := by
  have hlog := Pub.logOK_batchInsert hins (Pub.logOK_begin s hidle.2)
  have hcore := (Part.txn_core c hc s a t hidle hrep hwf hat hep els hpf hlen s' a' hins).2.2
  intro k hk hsome
  obtain ⟨q, hq, rfl⟩ := nodeKeys_rootK hk
  cases hd : s.db.get? (NodeLabel.ofBits q) with
  | none => rw [hd] at hsome; cases hsome
  | some r =>
    unfold viewAt applyWrites
    rcases Part.mixed_writes hlog s.db W hW (NodeLabel.ofBits q) with h | ⟨r', hl, h⟩
    · rw [h]
    · rw [h, hd]
      rcases hcore q r' r hq hl hd a.latestEpoch (Nat.lt_succ_self _) with ⟨hst, _⟩ | ⟨n, m, hn, hm, he⟩
      · exact absurd rfl hst
      · simp only [hn, hm, he]

/-- the form for a database that holds nothing but the nodes of the tree: every key of the database -/
theorem partial_commit_invisible_all (c : Cfg) (hc : c.emptyLabel.len = 0)
    (s : NodeStore) (a : Azks) (t : CRoot)
    (hidle : s.inTxn = false ∧ s.log = [])
    (hrep : ReprRoot c .directory s t) (hwf : t.WF)
    (hat : AtEpoch s.db a.latestEpoch)
    (hdom : ∀ k, (s.db.get? k).isSome → k ∈ nodeKeys t)
    (hep : ∀ lf ∈ t.leaves, 1 ≤ lf.ep ∧ lf.ep ≤ a.latestEpoch)
    (els : List (BitStr × Dig))
    (hpf : PrefixFree (t.leaves ++ newLeaves els (a.latestEpoch + 1)))
    (hlen : ∀ lf ∈ t.leaves ++ newLeaves els (a.latestEpoch + 1), 1 ≤ lf.lbl.length ∧ lf.lbl.length ≤ 256)
    (s' : NodeStore) (a' : Azks)
    (hins : s.begin.batchInsert c .directory a (els.map fun x => (NodeLabel.ofBits x.1, x.2)) = .ok (s', a'))
    (W : List NodeRec) (hW : ∀ r ∈ W, ∃ k, s'.log.get? k = some r) :
    ∀ k, (s.db.get? k).isSome →
      viewAt (applyWrites s.db W) a.latestEpoch k = viewAt s.db a.latestEpoch k :=
  fun k hk => partial_commit_invisible c hc s a t hidle hrep hwf hat hep els hpf hlen s' a' hins W hW k
    (hdom k hk) hk

/-- the database itself is not touched before the commit -/
theorem insert_in_txn_keeps_db (c : Cfg) (m : InsertMode) (s : NodeStore) (a : Azks)
    (els : List (NodeLabel × Dig)) (s' : NodeStore) (a' : Azks)
    (h : s.begin.batchInsert c m a els = .ok (s', a')) : s'.db = s.db ∧ s'.inTxn = true :=
  Part.keeps_db s.db h ⟨rfl, rfl⟩

/-- **once everything is written the new epoch is served completely**

(the hypothesis `hat` is needed: without it a stray record of a later epoch that sits in
the database under a key the tree does not use survives the commit and refutes the last conjunct) -/
theorem full_commit_visible (c : Cfg) (hc : c.emptyLabel.len = 0)
    (s : NodeStore) (a : Azks) (t : CRoot)
    (hidle : s.inTxn = false ∧ s.log = [])
    (hrep : ReprRoot c .directory s t) (hwf : t.WF)
    (hat : AtEpoch s.db a.latestEpoch)
    (hep : ∀ lf ∈ t.leaves, 1 ≤ lf.ep ∧ lf.ep ≤ a.latestEpoch)
    (els : List (BitStr × Dig))
    (hpf : PrefixFree (t.leaves ++ newLeaves els (a.latestEpoch + 1)))
    (hlen : ∀ lf ∈ t.leaves ++ newLeaves els (a.latestEpoch + 1), 1 ≤ lf.lbl.length ∧ lf.lbl.length ≤ 256) :
    ∃ s' n, s.begin.batchInsert c .directory a (els.map fun x => (NodeLabel.ofBits x.1, x.2))
        = .ok (s', ⟨a.latestEpoch + 1, n⟩) ∧
      ReprRoot c .directory s'.commit ((newLeaves els (a.latestEpoch + 1)).foldl CRoot.insert1 t) ∧
      AtEpoch s'.commit.db (a.latestEpoch + 1) := by
  have hrepb : ReprRoot c .directory s.begin t :=
    Pub.reprRoot_getRec_congr c _ s s.begin (Pub.getRec_begin s hidle.1 hidle.2) t hrep
  obtain ⟨s', n, hrun, hrep'⟩ := batchInsert_refines c hc .directory s.begin a t hrepb hwf hep els hpf hlen
  have hlog : Pub.LogOK s' := Pub.logOK_batchInsert hrun (Pub.logOK_begin s hidle.2)
  have hdb := Part.keeps_db s.db hrun ⟨rfl, rfl⟩
  have hle : Part.LogLe (a.latestEpoch + 1) s' :=
    Part.logLe_batchInsert hrun ⟨rfl, fun k r hk => absurd hk (Part.log_begin hidle.2 k r)⟩
  refine ⟨s', n, hrun, Pub.reprRoot_getRec_congr c _ s' s'.commit (Pub.getRec_commit s' hlog) _ hrep', ?_⟩
  intro k r hk
  rcases Part.mixed_commit hlog k with h | ⟨r', hl, h⟩
  · rw [h, hdb.1] at hk
    exact Nat.le_succ_of_le (hat k r hk)
  · rw [h] at hk
    cases hk
    exact hle.2 k r hl

/-- keys that are new in this epoch are invisible at the previous one: they resolve to "not found"

(the hypothesis `hkeyed` is needed: a record stored under a key different from its node's
label is read through the former and rewritten, with its old epoch, under the latter) -/
theorem new_keys_invisible (c : Cfg) (m : InsertMode) (s : NodeStore) (a : Azks)
    (els : List (NodeLabel × Dig)) (s' : NodeStore) (a' : Azks)
    (hidle : s.inTxn = false ∧ s.log = [])
    (hkeyed : WellKeyed s.db)
    (h : s.begin.batchInsert c m a els = .ok (s', a'))
    (k : NodeLabel) (r : NodeRec) (hk : s'.log.get? k = some r) (hnew : s.db.get? k = none) :
    r.resolve a.latestEpoch = .error .notFound := by
  obtain ⟨h1, h2⟩ := (Part.newInv_batchInsert s.db hkeyed h (Part.newInv_begin hidle.2 _)).fresh k r hk hnew
  unfold NodeRec.resolve
  rw [if_pos (by omega), h2]

end Akd.C11
