/-
C02 — lookup returns a verifying proof of the latest value for every published label.

Composition: the directory state represents the specification state (`C01.Refines`, established for
every history by `C01.history_refines`); proof GENERATION over storage (`Insert.lean`:
`lcpProof`, `membershipProof`, `nonMembershipProof`, the literal walk of
`get_lcp_node_label_with_membership_proof`) computes the canonical proofs of `CTrie.lean`
(`*_refines` below); those verify (`C05` completeness); and the tree is honest for every label
(`C01.refines_honest`), so verification yields exactly the specification's latest version.
-/
import AkdModel.Thm.C01c
import AkdModel.Thm.C05
import AkdModel.Thm.C06
import AkdModel.Lemmas.GenLookup
namespace Akd.C02
open Akd C01

/-- the side condition `hnp` of the two `*Proof_refines` theorems holds whenever all leaves have
256-bit labels (as in the directory) and the query has at most 256 bits -/
theorem noProperPrefix_of_256 (t : CRoot) (x : BitStr) (h256 : ∀ lf ∈ t.leaves, lf.lbl.length = 256)
    (hx : x.length ≤ 256) : ∀ lf ∈ t.leaves, lf.lbl <+: x → lf.lbl = x := fun lf hlf hp =>
  hp.eq_of_length_le (by rw [h256 lf hlf]; exact hx)

/-- proof generation over storage = canonical proof generation (membership / longest-prefix walk).

The hypothesis `hnp` (no leaf label is a PROPER prefix of the query) is needed: without
it the statement is false (`membershipProof_refines_counterexample` at the end of this file): at a
leaf whose label is a proper prefix of the query the Rust loop finds no child, `break`s with
`equal = false` and pops back to the parent, while the canonical walk `CTree.path` stays at the leaf.
It cannot happen in the directory: all leaf labels and all queries have 256 bits
(`noProperPrefix_of_256`). -/
theorem membershipProof_refines (c : Cfg) (s : NodeStore) (a : Azks) (t : CRoot)
    (hrep : ReprRoot c .directory s t) (hwf : t.WF)
    (hl : ∀ lf ∈ t.leaves, 1 ≤ lf.lbl.length ∧ lf.lbl.length ≤ 256)
    (hep : ∀ lf ∈ t.leaves, lf.ep ≤ a.latestEpoch)
    (x : BitStr) (hx : x.length ≤ 256)
    (hnp : ∀ lf ∈ t.leaves, lf.lbl <+: x → lf.lbl = x) :
    s.membershipProof c a (NodeLabel.ofBits x) = .ok (t.genMembership c x) :=
  Gen.membershipProof_core c s a t x hx hrep hwf
    (fun lf h => (hl lf h).2) hep hnp

/-- `hnp` is needed as in `membershipProof_refines`. -/
theorem nonMembershipProof_refines (c : Cfg) (s : NodeStore) (a : Azks) (t : CRoot)
    (hrep : ReprRoot c .directory s t) (hwf : t.WF)
    (hl : ∀ lf ∈ t.leaves, 1 ≤ lf.lbl.length ∧ lf.lbl.length ≤ 256)
    (hep : ∀ lf ∈ t.leaves, lf.ep ≤ a.latestEpoch)
    (x : BitStr) (hx : x.length ≤ 256)
    (hnp : ∀ lf ∈ t.leaves, lf.lbl <+: x → lf.lbl = x) :
    s.nonMembershipProof c a (NodeLabel.ofBits x) = .ok (t.genNonMembership c x) :=
  Gen.nonMembershipProof_core c s a t x hx hrep hwf
    (fun lf h => (hl lf h).2) hep hnp

theorem rootHash_refines (c : Cfg) (s : NodeStore) (a : Azks) (t : CRoot)
    (hrep : ReprRoot c .directory s t) (hep : ∀ lf ∈ t.leaves, lf.ep ≤ a.latestEpoch) :
    s.rootHash c a = .ok (t.rootHash c) :=
  rootHash_of_reprRoot c .directory s t a.latestEpoch a.numNodes hrep hep

set_option linter.unusedVariables false in  -- `hce` and `hu` are not used
/-- **lookup completeness**: in a state that represents the specification state, the lookup of a
published label succeeds, returns the current epoch and root hash, and verification of the returned
proof yields exactly (epoch of the latest update, version count, latest value) -/
theorem lookup_complete (c : Cfg) (hc : c.Lawful) (hce : c.emptyLabel.len = 0) (hfresh : C05.EmptyLabelFresh c)
    (d : Dir) (sp : Spec.State) (users : List Bytes) (N : Nat)
    (hv : C06.VrfOK d.vrf) (ht : VrfTotal d.vrf users N) (hN : sp.epoch + 1 ≤ N)
    (hu : ∀ x ∈ sp.table, x.1 ∈ users)
    (href : Refines c d sp) (u : Bytes) (hmem : u ∈ users) (last : Spec.Ver)
    (hlast : (sp.table.get u).getLast? = some last) :
    ∃ π, d.lookup c u = .ok (π, sp.epoch, Spec.rootHash c d.commitmentKey d.vrf sp) ∧
      Verify.lookup c d.vrf (Spec.rootHash c d.commitmentKey d.vrf sp) sp.epoch u π
        = .ok ⟨last.epoch, last.version, last.value⟩ := by
  obtain ⟨hE, hgen⟩ := Gen.lookup_gen c d sp users N hv ht hN href u hmem last hlast
  obtain ⟨hwf, h256, -⟩ := Gen.refines_tree_facts c d sp hv href
  have hpos := (C06.VersionsOK.version_le (href.versions u).1 (List.mem_of_getLast? hlast)).1
  exact ⟨_, hgen, Gen.honestLookup_verifies c hc hfresh d.commitmentKey d.vrf hv _ hwf h256 u (sp.table.get u)
    (honestFor_of_refines c d sp hv users N ht hN href u hmem) last hlast sp.epoch hE
    (ht u hmem false last.version hpos (Nat.le_trans hE (Nat.le_of_succ_le hN)))⟩

/-- a label that was never published has no lookup proof -/
theorem lookup_unpublished (c : Cfg) (d : Dir) (sp : Spec.State) (href : Refines c d sp) (u : Bytes)
    (hnone : sp.table.get u = []) : ∃ e, d.lookup c u = .error e :=
  ⟨.notFound, Gen.lookup_unpublished_core c d sp href u hnone⟩

/-! ## why `hnp` is needed: a counterexample to the two `*Proof_refines` statements without it -/
section Counterexample

/-- the storage walk at a child of the root that is a leaf whose label is a PROPER prefix of the query:
the labels differ, the ordering is valid, the leaf has no child, so the loop breaks with
`equal = false` and `lcpProof` answers with the previous node, the root -/
theorem lcpProof_at_proper_prefix (c : Cfg) (s : NodeStore) (a : Azks) (t : CRoot) (b : Bool) (x q : BitStr)
    (v : Dig) (e : Nat) (hx : (b :: x).length ≤ 256) (hrep : ReprRoot c .directory s t)
    (hep : ∀ lf ∈ t.leaves, lf.ep ≤ a.latestEpoch) (hs : (t.side b).1 = some (.leaf q v e))
    (b' : Bool) (hq : (q ++ [b']) <+: b :: x) :
    ∃ mp, s.lcpProof c a (NodeLabel.ofBits (b :: x)) = .ok (NodeLabel.root, mp) ∧ mp.label = NodeLabel.root := by
  obtain ⟨n, hg, hn⟩ := Gen.root_of_repRoot c s t a.latestEpoch hrep hep
  obtain ⟨hra, hma⟩ := Gen.side_rep c s t a.latestEpoch hrep hep b _ hs
  have hc1 : n.childLabel (.ofBit b) = Ins.olbl (t.side b).1 := hn.kid b
  have hc2 : n.childLabel (Direction.ofBit b).other = Ins.olbl (t.side b).2.1 := by
    rw [Gen.ofBit_other, CRoot.side_other]
    exact hn.kid (!b)
  obtain ⟨na, ⟨hlbl, -, hleft, hright, -⟩, hstep⟩ := Gen.walk_descend c s a.latestEpoch (b :: x) hx 299 n n [] [] b
    (by rw [hn.label, NodeLabel.ofBits_nil]; rfl) (by simp) (.leaf q v e) (t.side b).2.1 (by rw [hc1, hs]; rfl) hc2 hra hma
    (fun t' ht' => by
      rw [CRoot.side_other] at ht'
      exact Gen.side_rep c s t a.latestEpoch hrep hep _ t' ht')
  have hne : NodeLabel.ofBits (b :: x) ≠ na.label := by rw [hlbl]; exact Gen.ofBits_ne_of_snoc_prefix hx hq
  have hwalk := Gen.lcpWalk_none c s _ a.latestEpoch 298 na n
    [⟨NodeLabel.ofBits [], CRoot.element c (t.side b).2.1, Direction.ofBit b⟩] b' hne
    (by rw [hlbl]; exact Gen.ordering_of_bit q _ b' hx hq)
    (Gen.getChildForProof_of_label_none (by cases b' <;> assumption))
  rw [Gen.lcpProof_eq, hg]
  simp only [hstep, List.nil_append, hwalk, Gen.finish, Bool.false_eq_true, if_false, hn.label, Gen.posLabel]
  exact ⟨_, rfl, rfl⟩

theorem membershipProof_of_nonMembershipProof {c : Cfg} {s : NodeStore} {a : Azks} {l : NodeLabel}
    {np : NonMembershipProof} (h : s.nonMembershipProof c a l = .ok np) :
    s.membershipProof c a l = .ok np.longestPrefixMembershipProof := by
  rw [Gen.nonMembershipProof_eq] at h
  unfold NodeStore.membershipProof
  split at h
  · cases h
  rename_i lbl mp hl
  rw [hl]
  split at h
  · cases h
  split at h
  · cases h; rfl
  · cases h
  · cases h

private def cxEls : List (BitStr × Dig) := [([false], Dig.raw [1]), ([true, true], Dig.raw [2])]
private def cxQuery : BitStr := [false, true]
private def cxTree : CRoot := (newLeaves cxEls 1).foldl CRoot.insert1 CRoot.empty

/-- leaves `0` and `11`, query `01`: every hypothesis but `hnp` holds, but the
storage walk answers with the ROOT (label length 0: at the leaf `0` it finds no child towards `01`,
breaks and pops), the canonical walk with the LEAF `0` (label length 1) -/
theorem membershipProof_refines_counterexample :
    ∃ (s : NodeStore) (a : Azks) (t : CRoot) (x : BitStr),
      ReprRoot Cfg.whatsappV1 .directory s t ∧ t.WF ∧
      (∀ lf ∈ t.leaves, 1 ≤ lf.lbl.length ∧ lf.lbl.length ≤ 256) ∧
      (∀ lf ∈ t.leaves, lf.ep ≤ a.latestEpoch) ∧ x.length ≤ 256 ∧
      s.membershipProof Cfg.whatsappV1 a (NodeLabel.ofBits x) ≠ .ok (t.genMembership Cfg.whatsappV1 x) ∧
      s.nonMembershipProof Cfg.whatsappV1 a (NodeLabel.ofBits x) ≠ .ok (t.genNonMembership Cfg.whatsappV1 x) := by
  obtain ⟨s₀, -, hr0⟩ := azksNew_repr Cfg.whatsappV1 .directory ({} : NodeStore)
  obtain ⟨s, n, -, hr⟩ := batchInsert_refines Cfg.whatsappV1 rfl .directory s₀ ⟨0, 1⟩ CRoot.empty hr0
    Canon.Root.empty_wf (by simp [CRoot.empty, CRoot.leaves]) cxEls
    (by simp [PrefixFree, CRoot.empty, CRoot.leaves, newLeaves, cxEls])
    (by simp [CRoot.empty, CRoot.leaves, newLeaves, cxEls])
  have hep : ∀ lf ∈ cxTree.leaves, lf.ep ≤ 1 := by decide +kernel
  obtain ⟨mp, hlcp, hlab⟩ := lcpProof_at_proper_prefix Cfg.whatsappV1 s ⟨1, n⟩ cxTree false [true] [false]
    (Dig.raw [1]) 1 (by decide) hr hep rfl true (List.prefix_refl _)
  have hm : s.membershipProof Cfg.whatsappV1 ⟨1, n⟩ (NodeLabel.ofBits cxQuery)
      ≠ .ok (cxTree.genMembership Cfg.whatsappV1 cxQuery) := by
    unfold NodeStore.membershipProof
    rw [show cxQuery = [false, true] from rfl, hlcp]
    intro h
    have hlen := congrArg (fun p => p.label.len) (Except.ok.inj h)
    simp only [hlab] at hlen
    revert hlen
    decide +kernel
  exact ⟨s, ⟨1, n⟩, cxTree, cxQuery, hr, by decide +kernel, by decide +kernel, hep, by decide, hm,
    fun h => hm (membershipProof_of_nonMembershipProof h)⟩

end Counterexample
end Akd.C02

namespace Akd.C06.Ex
open Akd NodeLabel

/-- all hypotheses of `lookup_sound` hold together, including acceptance -/
example : cfg.Lawful ∧ C05.EmptyLabelFresh cfg ∧ VrfOK vrf ∧ t.WF ∧ C05.Leaves256 t ∧
    HonestFor cfg key vrf t u vs ∧
    Verify.lookup cfg vrf (t.rootHash cfg) 3 u lookupProof = .ok ⟨3, 2, [20]⟩ := by
  -- `lookupProof` is the honest proof for the last version, so it is accepted by completeness
  have hl : lookupProof = Gen.honestLookup cfg key vrf t u ⟨2, [20], 3⟩ := by
    simp only [Gen.honestLookup, Gen.lab_eq (show vrf.get? ⟨u, true, 2⟩ = some (ofBits bF2) from rfl),
      Gen.lab_eq (show vrf.get? ⟨u, false, 2⟩ = some (ofBits bS2) from rfl),
      show Dir.markerVersion 2 = 2 from rfl, bitsF2, bitsS2]
    rfl
  rw [hl]
  exact ⟨Cfg.whatsappV1_lawful, C05.emptyLabelFresh_whatsappV1, vrfOK, wf, leaves256, honest,
    Gen.honestLookup_verifies cfg Cfg.whatsappV1_lawful C05.emptyLabelFresh_whatsappV1 key vrf vrfOK t wf
      leaves256 u vs honest ⟨2, [20], 3⟩ rfl 3 (by decide) rfl⟩

end Akd.C06.Ex
