/-
C07 — a verifying history proof cannot hide, reorder, invent or misdate versions.
Same setting as C06 (`HonestFor`); `π` is EVERY proof value; `n = vs.length ≤ E`.
-/
import AkdModel.Thm.C06
import AkdModel.Thm.C08
import AkdModel.Lemmas.SoundHistory
namespace Akd.C07
open Akd C06

/-- the true answer for a parameter: versions newest first, all or the newest `k` -/
def expected (vs : List Spec.Ver) : HistoryParams → List Spec.Ver
  | .complete => vs.reverse
  | .mostRecent k => vs.reverse.take k

def resultOf (v : Spec.Ver) : Verify.VerifyResult := ⟨v.epoch, v.version, v.value⟩

theorem expected_length (vs : List Spec.Ver) (p : HistoryParams) :
    (expected vs p).length = match p with
      | .complete => vs.length
      | .mostRecent r => min r vs.length := by
  cases p <;> simp [expected]

theorem expected_getElem (vs : List Spec.Ver) (p : HistoryParams) (i : Nat)
    (h : i < (expected vs p).length) :
    ∃ h' : vs.length - 1 - i < vs.length, (expected vs p)[i] = vs[vs.length - 1 - i] := by
  have key : ∀ {i}, i < vs.length → vs.length - 1 - i < vs.length := fun h =>
    Nat.lt_of_le_of_lt (Nat.sub_le _ _) (Nat.sub_lt (Nat.zero_lt_of_lt h) Nat.one_pos)
  cases p with
  | complete =>
    simp only [expected, List.length_reverse] at h ⊢
    exact ⟨key h, by rw [List.getElem_reverse]⟩
  | mostRecent r =>
    simp only [expected, List.length_take, List.length_reverse] at h ⊢
    exact ⟨key (Nat.lt_of_lt_of_le h (Nat.min_le_right _ _)), by rw [List.getElem_take, List.getElem_reverse]⟩

theorem expected_of_version {vs : List Spec.Ver} (hV : VersionsOK vs) {v : Spec.Ver} (hv : v ∈ vs)
    {p : HistoryParams} {i : Nat} (h : i < (expected vs p).length) (hvi : v.version + i = vs.length) :
    (expected vs p)[i] = v := by
  obtain ⟨_, e⟩ := expected_getElem vs p i h
  obtain ⟨_, hget⟩ := hV.getElem_of_version hv
  rw [e, ← hget]
  congr 1
  rw [← hvi, Nat.sub_right_comm, Nat.add_sub_cancel]

/-- what an accepted update proof says about the true entry of its version: in strict mode
everything is the truth; in allow-mode an empty value is accepted, and then the epoch is only
bound for versions `≥ 2` -/
def EntryOK (allow : Bool) (v : Spec.Ver) (r : Verify.VerifyResult) : Prop :=
  r.version = v.version ∧
  ((r.value = v.value ∧ r.epoch = v.epoch) ∨
    (allow = true ∧ r.value = [] ∧ (r.epoch = v.epoch ∨ r.version = 1)))

section Core
variable {c : Cfg} {key : Dig} {vrf : VrfTable} {t : CRoot} {u : Bytes} {vs : List Spec.Ver}

theorem update_bound (hc : c.Lawful) (hfresh : C05.EmptyLabelFresh c) (hv : VrfOK vrf)
    (hwf : t.WF) (h256 : C05.Leaves256 t) (hon : HonestFor c key vrf t u vs)
    {allow : Bool} {p : UpdateProof} {r : Verify.VerifyResult}
    (h : Verify.singleUpdate c vrf (t.rootHash c) u allow p = .ok r) :
    ∃ v ∈ vs, EntryOK allow v ⟨p.epoch, p.version, p.value⟩ := by
  obtain ⟨-, h1, h2⟩ := Snd.singleUpdate_ok h
  rcases h1 with ⟨ha, hval, hex⟩ | hex
  · obtain ⟨v, hmem, hver⟩ := bound_version hc hfresh hv hwf h256 hon hex
    refine ⟨v, hmem, hver.symm, Or.inr ⟨ha, hval, ?_⟩⟩
    by_cases h2' : 2 ≤ p.version
    · obtain ⟨pv, pp, hs⟩ := h2 h2'
      obtain ⟨w, hw, hwver, hep⟩ := bound_stale hc h256 hon (Nat.le_sub_of_add_le h2') hs
      have : w = v := hon.versions.unique hw hmem
        (hwver.trans ((Nat.sub_add_cancel (Nat.le_of_lt h2')).trans hver.symm))
      subst this
      exact Or.inl hep
    · have := (hon.versions.version_le hmem).1
      right
      exact Nat.le_antisymm (Nat.le_of_lt_succ (Nat.lt_of_not_le h2')) (hver ▸ this)
  · obtain ⟨v, hmem, hver, hval, hep⟩ := bound_strict hc h256 hon hex
    exact ⟨v, hmem, hver.symm, Or.inl ⟨hval, hep⟩⟩

theorem history_core (hc : c.Lawful) (hfresh : C05.EmptyLabelFresh c) (hv : VrfOK vrf)
    (hwf : t.WF) (h256 : C05.Leaves256 t) (hon : HonestFor c key vrf t u vs)
    {E : Nat} (hE : vs.length ≤ E) {π : HistoryProof} {p : HistoryParams} {allow : Bool}
    {rs : List Verify.VerifyResult}
    (hacc : Verify.history c vrf (t.rootHash c) E u π p allow = .ok rs) :
    0 < rs.length ∧ rs.length = (expected vs p).length ∧
    ∀ i (h₁ : i < rs.length) (h₂ : i < (expected vs p).length),
      EntryOK allow ((expected vs p)[i]) (rs[i]) := by
  obtain ⟨past, future, hw, hu, hfut⟩ := Snd.history_ok hacc
  obtain ⟨v0, sh⟩ := Snd.withHistoryParams_iff.1 hw
  obtain ⟨rfl, hsingle⟩ := Snd.verifyUpdates_ok _ _ _ hu
  -- the `i`-th update proof is bound to the true entry of version `v0 - i`
  have hentry : ∀ i (hi : i < π.updates.length), ∃ v ∈ vs, v.version + i = v0 ∧
      EntryOK allow v ⟨(π.updates[i]).epoch, (π.updates[i]).version, (π.updates[i]).value⟩ := by
    intro i hi
    obtain ⟨v, hmem, hok⟩ := update_bound hc hfresh hv hwf h256 hon (hsingle _ (List.getElem_mem hi))
    exact ⟨v, hmem, by rw [← hok.1]; exact sh.ver i hi, hok⟩
  -- the newest one is the latest version: otherwise `v0 + 1` is a future marker, shown absent
  have hv0 : v0 = vs.length := by
    obtain ⟨vtop, htop, htopv, -⟩ := hentry 0 sh.pos
    have hle := hon.versions.version_le htop
    rcases Nat.lt_or_ge v0 vs.length with hlt | hge
    · have hmemf : v0 + 1 ∈ future := by
        have := C08.succ_mem_future v0 E (Nat.le_trans sh.pos sh.start) (by omega)
        rwa [C08.future, (Snd.markers_eq_some.1 sh.markers).2] at this
      obtain ⟨pf, np, hnon⟩ := hfut _ hmemf
      exact absurd (hon.versions.1 v0 hlt) (absent_fresh hc hfresh hv hwf h256 hon hnon _ (List.getElem_mem _))
    · exact Nat.le_antisymm (htopv ▸ hle.2) hge
  subst hv0
  have hlen : π.updates.length = (expected vs p).length := by
    rw [expected_length]
    exact (Snd.paramsOK_length sh.start).1 sh.params
  refine ⟨by rw [List.length_map]; exact sh.pos, by rw [List.length_map]; exact hlen, fun i h₁ h₂ => ?_⟩
  obtain ⟨v, hmem, hvi, hok⟩ := hentry i (by rw [hlen]; exact h₂)
  rw [expected_of_version hon.versions hmem h₂ hvi, List.getElem_map]
  exact hok

end Core

/-- **history soundness, strict verifier** (full strength): the accepted result IS the true list -/
theorem history_sound (c : Cfg) (hc : c.Lawful) (hfresh : C05.EmptyLabelFresh c)
    (key : Dig) (vrf : VrfTable) (hv : VrfOK vrf)
    (t : CRoot) (hwf : t.WF) (h256 : C05.Leaves256 t)
    (u : Bytes) (vs : List Spec.Ver) (hon : HonestFor c key vrf t u vs)
    (E : Nat) (hE : vs.length ≤ E)
    (π : HistoryProof) (p : HistoryParams) (rs : List Verify.VerifyResult)
    (hacc : Verify.history c vrf (t.rootHash c) E u π p false = .ok rs) :
    rs = (expected vs p).map resultOf := by
  obtain ⟨-, hlen, hent⟩ := history_core hc hfresh hv hwf h256 hon hE hacc
  apply List.ext_getElem (by rw [hlen, List.length_map])
  intro i h₁ h₂
  have h₂' : i < (expected vs p).length := by simpa using h₂
  obtain ⟨hver, hrest⟩ := hent i h₁ h₂'
  rcases hrest with ⟨hval, hep⟩ | ⟨hfalse, -, -⟩
  · rw [List.getElem_map]
    cases hr : rs[i] with
    | mk e ver val =>
      rw [hr] at hver hval hep
      simp only at hver hval hep
      simp only [resultOf, hver, hval, hep]
  · cases hfalse

/-- **history soundness, verifier that allows missing values**: the versions are the true ones, every
value is the true one or empty, and every epoch is the true one except possibly that of a
version-1 entry carried with the empty value (finding C07-F1: the proof format has no
commitment for a tombstoned first version) -/
theorem history_sound_tombstone (c : Cfg) (hc : c.Lawful) (hfresh : C05.EmptyLabelFresh c)
    (key : Dig) (vrf : VrfTable) (hv : VrfOK vrf)
    (t : CRoot) (hwf : t.WF) (h256 : C05.Leaves256 t)
    (u : Bytes) (vs : List Spec.Ver) (hon : HonestFor c key vrf t u vs)
    (E : Nat) (hE : vs.length ≤ E)
    (π : HistoryProof) (p : HistoryParams) (rs : List Verify.VerifyResult)
    (hacc : Verify.history c vrf (t.rootHash c) E u π p true = .ok rs) :
    rs.length = (expected vs p).length ∧
    ∀ i (h₁ : i < rs.length) (h₂ : i < (expected vs p).length),
      (rs[i]).version = ((expected vs p)[i]).version ∧
      ((rs[i]).value = ((expected vs p)[i]).value ∨ (rs[i]).value = []) ∧
      ((rs[i]).epoch = ((expected vs p)[i]).epoch ∨ ((rs[i]).version = 1 ∧ (rs[i]).value = [])) := by
  obtain ⟨-, hlen, hent⟩ := history_core hc hfresh hv hwf h256 hon hE hacc
  refine ⟨hlen, ?_⟩
  intro i h₁ h₂
  obtain ⟨hver, hrest⟩ := hent i h₁ h₂
  refine ⟨hver, ?_, ?_⟩
  · rcases hrest with ⟨hval, -⟩ | ⟨-, hval, -⟩
    · exact Or.inl hval
    · exact Or.inr hval
  · rcases hrest with ⟨-, hep⟩ | ⟨-, hval, hep | h1⟩
    · exact Or.inl hep
    · exact Or.inl hep
    · exact Or.inr ⟨h1, hval⟩

/-- nothing is accepted for a never-published label, in either mode -/
theorem history_unpublished_rejected (c : Cfg) (hc : c.Lawful) (hfresh : C05.EmptyLabelFresh c)
    (key : Dig) (vrf : VrfTable) (hv : VrfOK vrf)
    (t : CRoot) (hwf : t.WF) (h256 : C05.Leaves256 t)
    (u : Bytes) (hon : HonestFor c key vrf t u [])
    (E : Nat) (π : HistoryProof) (p : HistoryParams) (allow : Bool) :
    ∀ rs, Verify.history c vrf (t.rootHash c) E u π p allow ≠ .ok rs := by
  intro rs hacc
  obtain ⟨hpos, hlen, -⟩ := history_core hc hfresh hv hwf h256 hon (Nat.zero_le E) hacc
  rw [hlen, expected_length] at hpos
  cases p <;> simp at hpos

-- (`hfresh`, `hv`, `hwf` are not used by the proof)
set_option linter.unusedVariables false in
/-- if the tree fails to retire version `v-1` in the very epoch of version `v` (stale leaf missing, or
stamped with another epoch), no proof covering version `v ≥ 2` verifies.  Here the tree is only
required to hold the FRESH leaves honestly (`fresh_only`). -/
theorem late_stale_rejected (c : Cfg) (hc : c.Lawful) (hfresh : C05.EmptyLabelFresh c)
    (vrf : VrfTable) (hv : VrfOK vrf)
    (t : CRoot) (hwf : t.WF) (h256 : C05.Leaves256 t)
    (u : Bytes) (E : Nat) (π : HistoryProof) (p : HistoryParams) (allow : Bool)
    (up : UpdateProof) (hup : up ∈ π.updates) (hver : 2 ≤ up.version)
    (hbad : ∀ l lf, vrf.get? ⟨u, false, up.version - 1⟩ = some l → lf ∈ t.leaves → lf.lbl = l.bits →
        ¬ (lf.value = c.staleValue ∧ lf.ep = up.epoch)) :
    ∀ rs, Verify.history c vrf (t.rootHash c) E u π p allow ≠ .ok rs := by
  intro rs hacc
  obtain ⟨past, future, -, hu, -⟩ := Snd.history_ok hacc
  obtain ⟨-, hsingle⟩ := Snd.verifyUpdates_ok _ _ _ hu
  obtain ⟨-, -, h2⟩ := Snd.singleUpdate_ok (hsingle up hup)
  obtain ⟨pv, pp, hs⟩ := h2 hver
  obtain ⟨h1, hex⟩ := Snd.existenceWithCommitment_iff.1 hs
  obtain ⟨-, hget, hmem⟩ := Snd.existence_iff.1 hex
  obtain ⟨lf, hlf, hl, hval, hep⟩ := Snd.leaf_of_membership c hc t h256 pp _ _ h1 hmem
  exact hbad pp.label lf hget hlf hl ⟨hval, hep⟩

/-! ## non-vacuity: history proofs over the tree of `C06.Ex`

The setting of `C06.Ex`: label `u` with versions 1 (epoch 1) and 2 (epoch 3), 256-bit labels,
current epoch 3.  `C06.Ex.honest : HonestFor cfg key vrf t u vs`.  Here: the proofs.  That the honest ones are
accepted is an instance of completeness (`Gen.honestHistory_verifies`), which is proved from this file on: the
`example`s (the hypotheses of `history_sound` together with acceptance; the tombstoned proof accepted in
allow-mode only) stand at the end of `Thm/C03.lean`. -/
namespace Ex
open C06.Ex NodeLabel

def up2 : UpdateProof :=
  ⟨3, [20], 2, some ⟨u, true, 2⟩, t.genMembership cfg bF2,
    some (some ⟨u, false, 1⟩), some (t.genMembership cfg bS1), cfg.nonce key (ofBits bF2) 2 [20]⟩
def up1 : UpdateProof :=
  ⟨1, [10], 1, some ⟨u, true, 1⟩, t.genMembership cfg bF1, none, none, cfg.nonce key (ofBits bF1) 1 [10]⟩
/-- version 1 carried as a tombstone, with a WRONG epoch (2 instead of 1) -/
def up1Tomb : UpdateProof :=
  ⟨2, [], 1, some ⟨u, true, 1⟩, t.genMembership cfg bF1, none, none, .raw []⟩

/-- markers for the ranges `[1,2]` and `[2,2]` at epoch 3: no past marker, future marker 3 -/
def proofOf (ups : List UpdateProof) : HistoryProof :=
  ⟨ups, [], [], [some ⟨u, true, 3⟩], [t.genNonMembership cfg bF3]⟩

end Ex

end Akd.C07
