/-
C20 — tombstoning old values never changes what the directory has committed to.

`Dir.tombstone` (the model of `tombstone_value_states`, manager/mod.rs:426-452) rewrites value states
only.  The tree never reads value states; lookup reads only the latest one; publish compares with the
latest value only.  Hence everything the directory has committed to is unchanged, now and after
further publishes.  (What the two history verifiers make of a tombstoned entry is C07:
`history_sound` / `history_sound_tombstone`; what they make of the directory's own answer after tombstoning is
`Thm/C20c.lean`.)
-/
import AkdModel.Dir
import AkdModel.Spec
import AkdModel.Verify
import AkdModel.Lemmas.TombLemmas
namespace Akd.C20
open Akd

/-- the latest update of `u` is later than the cut-off -/
def CutBelowLatest (d : Dir) (u : Bytes) (cut : Nat) : Prop :=
  ∃ a, d.azks = some a ∧ ∃ st, d.stateLeq u a.latestEpoch = some st ∧ cut < st.epoch

/-- the states of `d'` are those of `d` with some values of `u` emptied -/
def SameUpToValues (d d' : Dir) (u : Bytes) (cut : Nat) : Prop :=
  d'.states.length = d.states.length ∧
  ∀ i (h : i < d.states.length) (h' : i < d'.states.length),
    let s := d.states[i]; let s' := d'.states[i]
    s'.username = s.username ∧ s'.epoch = s.epoch ∧ s'.version = s.version ∧ s'.label = s.label ∧
    (s'.value = s.value ∨ (s.username = u ∧ s.epoch ≤ cut ∧ s'.value = []))

/-- the entry as the verifier reports it after tombstoning up to `cut` -/
def tombVer (cut : Nat) (v : Spec.Ver) : Spec.Ver :=
  if Spec.tombstoned (some cut) v then { v with value := [] } else v

private theorem lookup_congr (c : Cfg) {d d' : Dir} (u : Bytes)
    (hn : d'.nodes = d.nodes) (ha : d'.azks = d.azks) (hv : d'.vrf = d.vrf)
    (hk : d'.commitmentKey = d.commitmentKey)
    (hs : ∀ a, d.azks = some a → d'.stateLeq u a.latestEpoch = d.stateLeq u a.latestEpoch) :
    d'.lookup c u = d.lookup c u := by
  unfold Dir.lookup
  rw [ha]
  cases hz : d.azks with
  | none => rfl
  | some a => simp only [hs a hz, hn, hk, Tomb.vrfLabel_congr hv]

private theorem stateLeq_of_cut {d d' : Dir} {u : Bytes} {cut : Nat} (h : d.tombstone u cut = .ok d')
    (hcut : CutBelowLatest d u cut) (a : Azks) (hz : d.azks = some a) (u' : Bytes) :
    d'.stateLeq u' a.latestEpoch = d.stateLeq u' a.latestEpoch := by
  obtain ⟨a', hz', st, hst, hlt⟩ := hcut
  obtain rfl : a = a' := Option.some.inj (hz.symm.trans hz')
  exact Tomb.stateLeq_tomb h u' _ (fun st' hs hu => by rw [hu, hst] at hs; cases hs; exact hlt)

theorem tombstone_keeps_tree (d d' : Dir) (u : Bytes) (cut : Nat) (h : d.tombstone u cut = .ok d') :
    d'.nodes = d.nodes ∧ d'.azks = d.azks ∧ d'.vrf = d.vrf ∧ d'.commitmentKey = d.commitmentKey ∧
    SameUpToValues d d' u cut := by
  rw [Tomb.tombstone_ok h]
  exact ⟨rfl, rfl, rfl, rfl, Tomb.rel_index (Tomb.map_tf_rel u cut d.states)⟩

/-- the epoch hash the directory answers with is unchanged -/
theorem tombstone_epochHash (c : Cfg) (d d' : Dir) (u : Bytes) (cut : Nat) (h : d.tombstone u cut = .ok d') :
    d'.epochHash c = d.epochHash c := by
  rw [Tomb.tombstone_ok h]; rfl

/-- every audit request has the same outcome: an error before and after, or proofs with the same inserted and
unchanged nodes for the same epochs -/
theorem tombstone_audit (c : Cfg) (d d' : Dir) (u : Bytes) (cut : Nat) (h : d.tombstone u cut = .ok d')
    (s e : Nat) : (d'.audit c s e).toOption.map (fun p => (p.proofs.map (fun q => (q.inserted, q.unchanged)), p.epochs))
      = (d.audit c s e).toOption.map (fun p => (p.proofs.map (fun q => (q.inserted, q.unchanged)), p.epochs)) := by
  rw [Tomb.tombstone_ok h]; rfl

/-- every other label's lookup has the same outcome: an error before and after, or the same epoch, value,
version, tree proofs, nonce, current epoch and root hash -/
theorem tombstone_other_lookup (c : Cfg) (d d' : Dir) (u u' : Bytes) (cut : Nat)
    (h : d.tombstone u cut = .ok d') (hne : u' ≠ u) :
    (d'.lookup c u').toOption.map (fun r => (r.1.epoch, r.1.value, r.1.version, r.1.existence, r.1.marker, r.1.freshness, r.1.commitmentNonce, r.2))
      = (d.lookup c u').toOption.map (fun r => (r.1.epoch, r.1.value, r.1.version, r.1.existence, r.1.marker, r.1.freshness, r.1.commitmentNonce, r.2)) := by
  obtain ⟨hn, ha, hv, hk, _⟩ := tombstone_keeps_tree d d' u cut h
  rw [lookup_congr c u' hn ha hv hk (fun a _ => Tomb.stateLeq_tomb h u' _ (fun _ _ hu => absurd hu hne))]

set_option linter.unusedVariables false in  -- `huniq` is not used: `stateLeq` picks the same position in both lists
/-- the label's own lookup has the same outcome (as in `tombstone_other_lookup`) when the cut-off is before its
latest update -/
theorem tombstone_own_lookup (c : Cfg) (d d' : Dir) (u : Bytes) (cut : Nat)
    (h : d.tombstone u cut = .ok d') (hcut : CutBelowLatest d u cut)
    (huniq : d.states.Pairwise (fun a b => ¬ (a.username = b.username ∧ a.epoch = b.epoch))) :
    (d'.lookup c u).toOption.map (fun r => (r.1.epoch, r.1.value, r.1.version, r.1.existence, r.1.marker, r.1.freshness, r.1.commitmentNonce, r.2))
      = (d.lookup c u).toOption.map (fun r => (r.1.epoch, r.1.value, r.1.version, r.1.existence, r.1.marker, r.1.freshness, r.1.commitmentNonce, r.2)) := by
  obtain ⟨hn, ha, hv, hk, _⟩ := tombstone_keeps_tree d d' u cut h
  rw [lookup_congr c u hn ha hv hk (fun a hz => stateLeq_of_cut h hcut a hz u)]

set_option linter.unusedVariables false in  -- `huniq` is not used: `stateLeq` picks the same position in both lists
/-- a further publish takes the same decisions and produces the same tree, epoch and root hash -/
theorem tombstone_then_publish (c : Cfg) (d d' : Dir) (u : Bytes) (cut : Nat)
    (h : d.tombstone u cut = .ok d') (hcut : CutBelowLatest d u cut)
    (huniq : d.states.Pairwise (fun a b => ¬ (a.username = b.username ∧ a.epoch = b.epoch)))
    (b : List (Bytes × Bytes)) :
    (∀ e, d.publish c b = .error e → ∃ e', d'.publish c b = .error e') ∧
    (∀ d₁ ep root, d.publish c b = .ok (d₁, ep, root) →
      ∃ d₁', d'.publish c b = .ok (d₁', ep, root) ∧ d₁'.nodes = d₁.nodes ∧ d₁'.azks = d₁.azks ∧
        SameUpToValues d₁ d₁' u cut) := by
  obtain ⟨hn, ha, hv, hk, _⟩ := tombstone_keeps_tree d d' u cut h
  have hrel : Tomb.LRel u cut d.states d'.states := by
    rw [Tomb.tombstone_ok h]; exact Tomb.map_tf_rel u cut d.states
  have hder : ∀ a', d.azks = some a' →
      Dir.deriveUpdates c d' a'.latestEpoch b = Dir.deriveUpdates c d a'.latestEpoch b :=
    fun a' hz' => Tomb.deriveUpdates_congr c _ (stateLeq_of_cut h hcut a' hz') hv hk b
  obtain ⟨herr, hok⟩ := Tomb.publish_congr c b hn ha hder
  refine ⟨fun e he => ⟨e, herr e he⟩, fun d₁ ep root hp => ?_⟩
  obtain ⟨d₁', sts, hp', hn', ha', h1, h2⟩ := hok d₁ ep root hp
  refine ⟨d₁', hp', hn', ha', Tomb.rel_index ?_⟩
  rw [h1, h2]
  exact Tomb.foldl_setState_rel u cut sts hrel

end Akd.C20
