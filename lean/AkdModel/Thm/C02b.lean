/-
C02, batch clause — "batch lookup returns the same proof results per label".

`Dir.batchLookup` (model of `Directory::batch_lookup`, `AkdModel/Batch.lean`) mirrors the code's structure: all
lookup infos first, one root hash, then the proofs.  The theorems say that this is, label by label, exactly the
single `lookup`: same proof, same epoch, same root hash; it fails iff some single lookup fails.
-/
import AkdModel.Batch
import AkdModel.Thm.C02
import AkdModel.Lemmas.BatchLemmas
namespace Akd.C02
open Akd C01

/-- a successful batch lookup is, label by label, the single lookup (same proof, epoch and root hash) -/
theorem batchLookup_sound (c : Cfg) (d : Dir) (us : List Bytes) (ps : List LookupProof) (e : Nat) (h : Dig)
    (hb : d.batchLookup c us = .ok (ps, e, h)) :
    ps.length = us.length ∧
      ∀ i (hi : i < us.length) (hj : i < ps.length), d.lookup c us[i] = .ok (ps[i], e, h) := by
  obtain ⟨azks, hz, he, hh, hm⟩ := (Dir.batchLookup_ok_iff c d us ps e h).1 hb
  obtain ⟨hl, hall⟩ := (InExcept.mapM_ok_iff _ us ps).1 hm
  exact ⟨hl, fun i hi hj => (Dir.lookup_ok_iff c d _ _ e h).2 ⟨azks, hz, he, hh, hall i hi hj⟩⟩

/-- if every single lookup succeeds — necessarily with one epoch and root hash — the batch lookup succeeds
with exactly those proofs -/
theorem batchLookup_complete (c : Cfg) (d : Dir) (us : List Bytes) (hne : us ≠ []) (ps : List LookupProof)
    (e : Nat) (h : Dig) (hl : ps.length = us.length)
    (hall : ∀ i (hi : i < us.length) (hj : i < ps.length), d.lookup c us[i] = .ok (ps[i], e, h)) :
    d.batchLookup c us = .ok (ps, e, h) := by
  -- the first label fixes the `azks`, epoch and root hash all of them share
  obtain ⟨azks, hz, he, hh, -⟩ :=
    (Dir.lookup_ok_iff c d _ _ e h).1 (hall 0 (List.length_pos_iff.2 hne) (hl ▸ List.length_pos_iff.2 hne))
  exact (Dir.batchLookup_ok_iff c d us ps e h).2 ⟨azks, hz, he, hh,
    (InExcept.mapM_ok_iff _ us ps).2 ⟨hl, fun i hi hj => Dir.lookupAt_of_lookup hz (hall i hi hj)⟩⟩

/-- the batch fails as soon as one of its labels has no lookup proof -/
theorem batchLookup_fails (c : Cfg) (d : Dir) (us : List Bytes) (u : Bytes) (hu : u ∈ us)
    (herr : ∃ e, d.lookup c u = .error e) : ∃ e, d.batchLookup c us = .error e := by
  obtain ⟨e, he⟩ := herr
  cases hb : d.batchLookup c us with
  | error e' => exact ⟨e', rfl⟩
  | ok r =>
    obtain ⟨ps, e', h⟩ := r
    obtain ⟨hl, hall⟩ := batchLookup_sound c d us ps e' h hb
    obtain ⟨i, hi, rfl⟩ := List.getElem_of_mem hu
    have := hall i hi (by omega)
    rw [he] at this
    cases this

/-- **batch lookup completeness**: in a state that represents the specification state, the batch lookup of
published labels succeeds with the current epoch and root hash, and each returned proof verifies to exactly
(epoch of the latest update, version count, latest value) of its label -/
theorem batch_lookup_complete (c : Cfg) (hc : c.Lawful) (hce : c.emptyLabel.len = 0) (hfresh : C05.EmptyLabelFresh c)
    (d : Dir) (sp : Spec.State) (users : List Bytes) (N : Nat)
    (hv : C06.VrfOK d.vrf) (ht : VrfTotal d.vrf users N) (hN : sp.epoch + 1 ≤ N)
    (hu : ∀ x ∈ sp.table, x.1 ∈ users)
    (href : Refines c d sp) (us : List Bytes) (hne : us ≠ []) (hmem : ∀ u ∈ us, u ∈ users)
    (hpub : ∀ u ∈ us, sp.table.get u ≠ []) :
    ∃ ps, d.batchLookup c us = .ok (ps, sp.epoch, Spec.rootHash c d.commitmentKey d.vrf sp) ∧
      ps.length = us.length ∧
      ∀ i (hi : i < us.length) (hj : i < ps.length) (last : Spec.Ver),
        (sp.table.get us[i]).getLast? = some last →
        Verify.lookup c d.vrf (Spec.rootHash c d.commitmentKey d.vrf sp) sp.epoch us[i] ps[i]
          = .ok ⟨last.epoch, last.version, last.value⟩ := by
  have hex : ∀ u ∈ us, ∃ π, d.lookup c u = .ok (π, sp.epoch, Spec.rootHash c d.commitmentKey d.vrf sp) := by
    intro u hmu
    cases hg : (sp.table.get u).getLast? with
    | none => exact absurd (List.getLast?_eq_none_iff.1 hg) (hpub u hmu)
    | some last =>
      obtain ⟨π, hπ, -⟩ := lookup_complete c hc hce hfresh d sp users N hv ht hN hu href u (hmem u hmu) last hg
      exact ⟨π, hπ⟩
  obtain ⟨ps, hps⟩ := Dir.batchLookup_total c d us hne _ _ hex
  obtain ⟨hl, hall⟩ := batchLookup_sound c d us ps _ _ hps
  refine ⟨ps, hps, hl, fun i hi hj last hlast => ?_⟩
  obtain ⟨π, hπ, hver⟩ :=
    lookup_complete c hc hce hfresh d sp users N hv ht hN hu href us[i] (hmem _ (List.getElem_mem hi)) last hlast
  cases hπ.symm.trans (hall i hi hj)
  exact hver

/-- a batch that contains a label that was never published has no answer -/
theorem batch_lookup_unpublished (c : Cfg) (d : Dir) (sp : Spec.State) (href : Refines c d sp)
    (us : List Bytes) (u : Bytes) (hu : u ∈ us) (hnone : sp.table.get u = []) :
    ∃ e, d.batchLookup c us = .error e :=
  batchLookup_fails c d us u hu (lookup_unpublished c d sp href u hnone)

end Akd.C02
