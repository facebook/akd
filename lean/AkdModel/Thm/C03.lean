/-
C03 — key history returns a verifying, complete account of a label's versions.
Same composition as C02, with the marker arithmetic of C08 (past markers are versions below the
start — present; future markers are versions above the end and at most the epoch — absent).
-/
import AkdModel.Thm.C02
import AkdModel.Thm.C07
import AkdModel.Thm.C08
import AkdModel.Lemmas.GenHistoryVerify
namespace Akd.C03
open Akd C01

-- (`hce`, `hu` and `hvals` are not used by the proof: in allow-mode an honest entry with an empty value is
-- checked by `verify_existence` alone and is accepted as well)
set_option linter.unusedVariables false in
/-- **history completeness**: for a published label and every parameter (Complete, MostRecent n with
n ≥ 1), the history request succeeds and the returned proof verifies — with the strict verifier and
with the one that allows missing values — to the label's versions newest first, all of them or the
newest min(n, total), each with its value and epoch -/
theorem history_complete (c : Cfg) (hc : c.Lawful) (hce : c.emptyLabel.len = 0) (hfresh : C05.EmptyLabelFresh c)
    (d : Dir) (sp : Spec.State) (users : List Bytes) (N : Nat)
    (hv : C06.VrfOK d.vrf) (ht : VrfTotal d.vrf users N) (hN : sp.epoch + 1 ≤ N)
    (hu : ∀ x ∈ sp.table, x.1 ∈ users)
    (href : Refines c d sp) (u : Bytes) (hmem : u ∈ users) (hpub : sp.table.get u ≠ [])
    (p : HistoryParams) (hp : ∀ n, p = .mostRecent n → 1 ≤ n) (allow : Bool)
    (hvals : allow = true → ∀ v ∈ sp.table.get u, v.value ≠ []) :
    ∃ π, d.keyHistory c u p = .ok (π, sp.epoch, Spec.rootHash c d.commitmentKey d.vrf sp) ∧
      Verify.history c d.vrf (Spec.rootHash c d.commitmentKey d.vrf sp) sp.epoch u π p allow
        = .ok ((C07.expected (sp.table.get u) p).map C07.resultOf) := by
  obtain ⟨past, future, hm, hgen⟩ := Gen.keyHistory_gen c d sp users N hv ht hN href u hmem hpub p hp
  obtain ⟨hwf, h256, -⟩ := Gen.refines_tree_facts c d sp hv href
  have hlen := Pub.versOK_length_le (href.versions u).1 _ (href.versions u).2
  exact ⟨_, hgen, Gen.honestHistory_verifies hc hfresh hv hwf h256
    (honestFor_of_refines c d sp hv users N ht hN href u hmem) hpub sp.epoch hlen
    (fun x h1 h2 => ht u hmem false x h1 (by omega)) (fun x h1 h2 => ht u hmem true x (by omega) (by omega))
    p hp allow past future hm⟩

end Akd.C03

/-! ## non-vacuity of C07: the history proofs of `C07.Ex`

`C07.Ex.proofOf [up2, up1]` and `proofOf [up2]` are the honest history proofs over the tree of `C06.Ex`, so
that they are accepted is an instance of `Gen.honestHistory_verifies`.  The tombstoned proof
`proofOf [up2, up1Tomb]` has the same version numbers and markers, so it passes the parameter and marker
checks for the same reason (`Gen.history_honest`); its entry of version 1 passes in allow-mode only. -/
namespace Akd.C07.Ex
open Akd C06 C06.Ex NodeLabel

theorem labF1 : Gen.lab vrf u true 1 = ofBits bF1 := Gen.lab_eq rfl
theorem labS1 : Gen.lab vrf u false 1 = ofBits bS1 := Gen.lab_eq rfl
theorem labF2 : Gen.lab vrf u true 2 = ofBits bF2 := Gen.lab_eq rfl
theorem labF3 : Gen.lab vrf u true 3 = ofBits bF3 := Gen.lab_eq rfl

theorem up2_honest : up2 = Gen.honestUpdate cfg key vrf t u ⟨2, [20], 3⟩ := by
  simp only [Gen.honestUpdate, Nat.reduceGT, ↓reduceIte, Nat.reduceSub, labF2, labS1, bitsF2, bitsS1]
  rfl

theorem up1_honest : up1 = Gen.honestUpdate cfg key vrf t u ⟨1, [10], 1⟩ := by
  simp only [Gen.honestUpdate, Nat.lt_irrefl, ↓reduceIte, labF1, bitsF1]
  rfl

theorem proofOf_eq (ups : List UpdateProof) :
    proofOf ups = { Gen.honestHistory cfg key vrf t u [] [] [3] with updates := ups } := by
  simp only [Gen.honestHistory, List.map_cons, List.map_nil, labF3, bitsF3]
  rfl

theorem future_labels (x : Nat) (h1 : vs.length < x) (h2 : x ≤ 3) : (vrf.get? ⟨u, true, x⟩).isSome := by
  obtain rfl : x = 3 := by have : 2 < x := h1; omega
  rfl

/-- all hypotheses of `history_sound` hold together, including acceptance, for both parameters -/
example : cfg.Lawful ∧ C05.EmptyLabelFresh cfg ∧ VrfOK vrf ∧ t.WF ∧ C05.Leaves256 t ∧
    HonestFor cfg key vrf t u vs ∧ vs.length ≤ 3 ∧
    Verify.history cfg vrf (t.rootHash cfg) 3 u (proofOf [up2, up1]) .complete false
      = .ok ((expected vs .complete).map resultOf) ∧
    Verify.history cfg vrf (t.rootHash cfg) 3 u (proofOf [up2]) (.mostRecent 1) false
      = .ok ((expected vs (.mostRecent 1)).map resultOf) := by
  have hstale : ∀ x, 1 ≤ x → x < vs.length → (vrf.get? ⟨u, false, x⟩).isSome := by
    intro x h1 h2
    obtain rfl : x = 1 := by have : x < 2 := h2; omega
    rfl
  have hacc := fun p hp past hm => Gen.honestHistory_verifies Cfg.whatsappV1_lawful C05.emptyLabelFresh_whatsappV1
    vrfOK wf leaves256 honest (by decide) 3 (by decide) hstale future_labels p hp false past [3] hm
  refine ⟨Cfg.whatsappV1_lawful, C05.emptyLabelFresh_whatsappV1, vrfOK, wf, leaves256, honest, by decide, ?_, ?_⟩
  · rw [up2_honest, up1_honest, proofOf_eq]
    exact hacc .complete (fun _ h => nomatch h) [] (by decide)
  · rw [up2_honest, proofOf_eq]
    exact hacc (.mostRecent 1) (fun _ h => by cases h; decide) [] (by decide)

/-- the exception in `history_sound_tombstone` is needed (finding C07-F1): in allow-mode a version-1
entry with the empty value is accepted with an epoch that is not the true one -/
example :
    Verify.history cfg vrf (t.rootHash cfg) 3 u (proofOf [up2, up1Tomb]) .complete true
      = .ok [⟨3, 2, [20]⟩, ⟨2, 1, []⟩] ∧
    (expected vs .complete).map resultOf = [⟨3, 2, [20]⟩, ⟨1, 1, [10]⟩] := by
  refine ⟨?_, by decide⟩
  -- the version numbers are those of the honest proof, so the parameter check and the markers pass
  rw [proofOf_eq, Gen.history_honest (c := cfg) Cfg.whatsappV1_lawful C05.emptyLabelFresh_whatsappV1 vrfOK wf
    leaves256 honest (by decide) 3 (by decide) future_labels .complete (fun _ h => nomatch h) true [] [3] (by decide)
    _ rfl]
  -- the entry of version 2 is the honest one; of the tombstoned entry only the fresh leaf is checked
  have h2 := Gen.honestUpdate_verifies vrfOK wf honest ⟨2, [20], 3⟩ (by simp [vs]) (fun _ => rfl) true
  have h1 := (Gen.fresh_existence vrfOK wf honest ⟨1, [10], 1⟩ (by simp [vs])).2
  rw [← up2_honest] at h2
  rw [labF1, bitsF1] at h1
  exact Snd.verifyUpdates_pair h2 (Snd.singleUpdate_tombstone 2 _ _ none none (.raw []) h1) (by decide)

/-- … and the strict verifier rejects it -/
example : ∀ rs, Verify.history cfg vrf (t.rootHash cfg) 3 u (proofOf [up2, up1Tomb]) .complete false ≠ .ok rs := by
  intro rs h
  -- an accepted result lists the proof's own entries; by `history_sound` it is the true list
  obtain ⟨_, _, -, hu, -⟩ := Snd.history_ok h
  have hrs := (Snd.verifyUpdates_ok _ _ _ hu).1
  rw [history_sound cfg Cfg.whatsappV1_lawful C05.emptyLabelFresh_whatsappV1 key vrf vrfOK t wf
    leaves256 u vs honest 3 (by decide) _ _ rs h] at hrs
  revert hrs
  decide

end Akd.C07.Ex
