/-
C04, end to end — for EVERY history of publishes and every range: the audit proof generated at the
end of the history verifies against the root hashes the directory returned for the epochs of the
range when they were published.

`C04.audit_complete` is stated over a node store and the canonical tree it represents; this file
composes it with C01's refinement theorem over whole histories.  The root hash of epoch `i` is taken
from a prefix of the history: `Spec.run (h.take k)` for any `k` at which the specification's epoch is
`i` (by `C01.history_refines` that is what `get_epoch_hash` returned after the first `k` batches).
-/
import AkdModel.Thm.C04
import AkdModel.Thm.C01c
namespace Akd.C04
open Akd C01

theorem rootHash_prefix (c : Cfg) (key : Dig) (vrf : VrfTable) (hv : C06.VrfOK vrf)
    (h : List (List (Bytes × Bytes))) (k i : Nat) (hk : (Spec.run (h.take k)).epoch = i) :
    Spec.rootHash c key vrf (Spec.run (h.take k)) =
      (treeAt (CRoot.ofLeaves (Spec.leaves c key vrf (Spec.run h).table)) i).rootHash c := by
  have hTk := (SpecHist.inv_run (h.take k)).tableOK
  have hperm := SpecHist.leaves_prefix c key vrf h k
  rw [hk] at hperm
  unfold Spec.rootHash treeAt
  rw [ofLeaves_perm _ _ (Pub.prefixFree_leaves hv c key _ hTk.keys hTk.vers)
    (Pub.leaves_lbl_ne_nil hv c key _)
    (hperm.symm.trans ((Pub.leafTree hv c key (SpecHist.inv_run h).tableOK).2.1.symm.filter _))]

/-- **audit completeness over histories**: `h` any list of batches (effective or not, with duplicates
or not), `ks` prefix lengths at which the epoch was `st, st+1, …, en` -/
theorem audit_complete_history (c : Cfg) (hc : c.Lawful) (hce : c.emptyLabel.len = 0)
    (vrf : VrfTable) (key : Dig) (users : List Bytes) (h : List (List (Bytes × Bytes)))
    (hv : C06.VrfOK vrf) (ht : VrfTotal vrf users (h.length + 2))
    (hb : ∀ b ∈ h, ∀ x ∈ b, x.1 ∈ users)
    (st en : Nat) (hse : st < en) (hen : en ≤ (Spec.run h).epoch)
    (ks : List Nat) (hks : ks.length = en - st + 1)
    (hk : ∀ j (hj : j < ks.length), ks[j] ≤ h.length ∧ (Spec.run (h.take ks[j])).epoch = st + j) :
    ∃ d0 π, Dir.init c { vrf := vrf, commitmentKey := key } = .ok d0 ∧
      (runDir c d0 h).audit c st en = .ok π ∧
      Auditor.verify c (ks.map fun k => Spec.rootHash c key vrf (Spec.run (h.take k))) π = .ok () := by
  -- the directory at the end of the history represents `Spec.run h`
  obtain ⟨d0, hinit, hr, h1, h2⟩ := run_refines c hce vrf key users h hv ht hb
  have htree := hr.tree
  rw [h1, h2] at htree
  obtain ⟨n, hazks⟩ := hr.azks
  have hI := SpecHist.inv_run h
  obtain ⟨hwf, hperm, hbd⟩ := Pub.leafTree hv c key hI.tableOK
  -- the last epoch has a leaf
  have hlast : ∃ lf ∈ (CRoot.ofLeaves (Spec.leaves c key vrf (Spec.run h).table)).leaves, en ≤ lf.ep := by
    have hE := SpecHist.run_epoch_le h
    obtain ⟨lf, hlf, he⟩ := SpecHist.last_leaf c key vrf _ hI (by omega) (fun x hx ver hv1 hv2 =>
      ht x.1 (SpecHist.run_keys h users hb x hx) true ver hv1 (by omega))
    exact ⟨lf, hperm.mem_iff.2 hlf, by omega⟩
  obtain ⟨π, hgen, hver⟩ := audit_complete c hc hce (runDir c d0 h).nodes ⟨(Spec.run h).epoch, n⟩ _ htree hwf
    (fun lf hlf => by have := (hbd lf hlf).1; omega) (fun lf hlf => (hbd lf hlf).2) st en hse hen (.inr hlast)
  refine ⟨d0, π, hinit, ?_, ?_⟩
  · rw [audit_eq c _ _ hazks, if_neg (by omega), if_neg (by show ¬ (Spec.run h).epoch < en; omega), hgen]
    rfl
  · have hlist : (ks.map fun k => Spec.rootHash c key vrf (Spec.run (h.take k))) =
        (List.range (en - st + 1)).map fun i =>
          (treeAt (CRoot.ofLeaves (Spec.leaves c key vrf (Spec.run h).table)) (st + i)).rootHash c := by
      apply List.ext_getElem
      · simp [hks]
      · intro j hj1 hj2
        have hj : j < ks.length := by simpa using hj1
        simp only [List.getElem_map, List.getElem_range]
        rw [rootHash_prefix c key vrf hv h ks[j] (st + j) (hk j hj).2]
    rw [hlist]
    exact hver

/-- the hypothesis on `ks` is satisfiable for every valid range: every epoch `0..E` is the epoch of
some prefix of the history -/
theorem prefix_epochs (h : List (List (Bytes × Bytes))) (i : Nat) (hi : i ≤ (Spec.run h).epoch) :
    ∃ k, k ≤ h.length ∧ (Spec.run (h.take k)).epoch = i :=
  SpecHist.prefix_epochs h h.length (Nat.le_refl _) i (by rwa [List.take_length])

end Akd.C04
