/-
C13, lagging instances, end to end — an instance whose view has fallen behind storage BY ANY NUMBER OF EPOCHS.

`d1` is the directory after the publish history `h1`, `d2` after `h1 ++ h2` (any further publishes, including rejected
and no-op batches).  An instance that still holds `d1`'s epoch record but reads today's storage (`d2`'s node store and
value states) answers the epoch hash and every lookup, key-history and audit request exactly as `d1` did — i.e. with the
(epoch, root hash) pair the directory published at that epoch and the proof it served then, which verifies against it
(C02/C03/C04) — or with an error.

Composition of `viewLe_publish` (one publish), `ViewLe.trans` and `lagging_requests` (Thm/C13c) over the history; the
storage invariants those need (`AtEpoch`, `WellKeyed`, "the database holds nothing but the nodes of the tree") are
established here for every state reached by publishes (`StoreOK`).
-/
import AkdModel.Thm.C13c
import AkdModel.Thm.C01c
import AkdModel.Lemmas.LagHistory
namespace Akd.C13
open Akd C01 C11

theorem storeOK_init (c : Cfg) (vrf : VrfTable) (key : Dig) :
    ∃ d, Dir.init c { vrf := vrf, commitmentKey := key } = .ok d ∧ StoreOK c d {} := by
  obtain ⟨d, hinit, href⟩ := init_refines c vrf key
  have hd : Dir.init c { vrf := vrf, commitmentKey := key } = .ok
      { nodes := ({} : NodeStore).setRec ⟨NodeLabel.root, TreeNode.newRoot c, none⟩, azks := some ⟨0, 1⟩,
        vrf := vrf, commitmentKey := key } := rfl
  rw [hd] at hinit
  injection hinit with hinit
  subst hinit
  have hdb : ∀ k r, NodeMap.get? (({} : NodeStore).setRec ⟨NodeLabel.root, TreeNode.newRoot c, none⟩).db k = some r →
      k = NodeLabel.root ∧ r = ⟨NodeLabel.root, TreeNode.newRoot c, none⟩ := by
    intro k r h
    have h' : NodeMap.get? [(NodeLabel.root, (⟨NodeLabel.root, TreeNode.newRoot c, none⟩ : NodeRec))] k = some r := h
    simp only [NodeMap.get?] at h'
    split at h'
    · rename_i hk
      simp only [Option.some.injEq] at h'
      exact ⟨hk.symm, h'.symm⟩
    · cases h'
  refine ⟨_, hd, href, ?_, ?_, ?_, fun x hx => nomatch hx⟩
  · intro k r h
    obtain ⟨_, rfl⟩ := hdb k r h
    exact Nat.le_refl _
  · intro k r h
    obtain ⟨rfl, rfl⟩ := hdb k r h
    exact ⟨rfl, fun p hp => nomatch hp⟩
  · intro k hk
    obtain ⟨r, hr⟩ := Option.isSome_iff_exists.1 hk
    obtain ⟨rfl, _⟩ := hdb k r hr
    exact List.mem_cons_self

/-- **one publish** keeps the invariants and only lets earlier epochs' views shrink; the value states it adds are of the
new epoch -/
theorem storeOK_publish (c : Cfg) (hc : c.emptyLabel.len = 0) (d : Dir) (sp : Spec.State)
    (users : List Bytes) (N : Nat)
    (hv : C06.VrfOK d.vrf) (ht : VrfTotal d.vrf users N) (hN : sp.epoch + 2 ≤ N)
    (hok : StoreOK c d sp) (b : List (Bytes × Bytes)) (hb : ∀ x ∈ b, x.1 ∈ users)
    (hu : ∀ x ∈ sp.table, x.1 ∈ users) (d' : Dir) (ep : Nat) (h : Dig)
    (hpub : d.publish c b = .ok (d', ep, h)) :
    StoreOK c d' (Spec.applyBatch sp b) ∧
    (∀ e, e ≤ sp.epoch → ViewLe d.nodes d'.nodes e) ∧
    (∃ extra, d'.states = d.states ++ extra ∧ ∀ x ∈ extra, sp.epoch < x.epoch) := by
  have _ := hu  -- not needed: one publish does not look at who is in the table
  by_cases hdup : (b.map (·.1)).eraseDups.length = b.length
  · obtain ⟨d2, hpub2, hok', _, _, hview, extra, hst, hextra⟩ := Lag.publish_step c hc d sp users N hv ht hN hok b hb hdup
    rw [hpub] at hpub2
    injection hpub2 with hpub2
    injection hpub2 with hd2 _
    subst hd2
    exact ⟨hok', hview, extra, hst, hextra⟩
  · rw [publish_dup c d b hdup] at hpub
    cases hpub

/-- **any number of epochs behind**: the instance that holds the epoch record of the state after `h1` and reads the
storage of the state after `h1 ++ h2` answers as the directory did after `h1`, or with an error -/
theorem lagging_instance (c : Cfg) (hc : c.emptyLabel.len = 0) (vrf : VrfTable) (key : Dig)
    (users : List Bytes) (h1 h2 : List (List (Bytes × Bytes)))
    (hv : C06.VrfOK vrf) (ht : VrfTotal vrf users ((h1 ++ h2).length + 2))
    (hb : ∀ b ∈ h1 ++ h2, ∀ x ∈ b, x.1 ∈ users) :
    ∃ d0, Dir.init c { vrf := vrf, commitmentKey := key } = .ok d0 ∧
      let d1 := runDir c d0 h1
      let d2 := runDir c d0 (h1 ++ h2)
      let dlag : Dir := { d2 with azks := d1.azks }
      (dlag.epochHash c = d1.epochHash c ∨ ∃ x, dlag.epochHash c = .error x) ∧
      (∀ u, dlag.lookup c u = d1.lookup c u ∨ ∃ x, dlag.lookup c u = .error x) ∧
      (∀ u p, dlag.keyHistory c u p = d1.keyHistory c u p ∨ ∃ x, dlag.keyHistory c u p = .error x) ∧
      (∀ s0 e0, dlag.audit c s0 e0 = d1.audit c s0 e0 ∨ ∃ x, dlag.audit c s0 e0 = .error x) := by
  obtain ⟨d0, hinit, hok0⟩ := storeOK_init c vrf key
  have hvrf0 : d0.vrf = vrf ∧ d0.commitmentKey = key := by
    simp only [Dir.init] at hinit
    split at hinit
    · injection hinit with hinit; subst hinit; exact ⟨rfl, rfl⟩
    · cases hinit
  refine ⟨d0, hinit, ?_⟩
  intro d1 d2 dlag
  have hlen : (h1 ++ h2).length = h1.length + h2.length := List.length_append
  obtain ⟨i1, i2, i3, i4, i5, _⟩ := Lag.run_inv c hc users ((h1 ++ h2).length + 2) h1 d0 {} (hvrf0.1 ▸ hv) (hvrf0.1 ▸ ht)
    (by show 0 + h1.length + 1 ≤ _; omega) hok0 (fun x hx => nomatch hx)
    (fun b hb' => hb b (List.mem_append_left _ hb'))
  have hE : (h1.foldl Spec.applyBatch {}).epoch ≤ h1.length := by
    have : ({} : Spec.State).epoch = 0 := rfl
    omega
  exact Lag.lagging_run c hc users ((h1 ++ h2).length + 2) h2 d1 (h1.foldl Spec.applyBatch {})
    (by rw [i2, hvrf0.1]; exact hv) (by rw [i2, hvrf0.1]; exact ht) (by omega) i1 i5
    (fun b hb' => hb b (List.mem_append_right _ hb')) dlag
    (by show dlag = { runDir c (runDir c d0 h1) h2 with azks := d1.azks }; rw [← Lag.runDir_append])

end Akd.C13
