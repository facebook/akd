/-
C19 — proofs survive protobuf encoding unchanged; malformed input is rejected cleanly.

The model (`Proto.lean`) has the typed layer (`enc*` / `dec*`: the `From` / `TryFrom` conversions of
`akd_core/src/proto/mod.rs`) and the wire layer (`writeMsg` / `parseBytes`: the canonical writer and
the parsing discipline of the generated code).  Decoding is a total function into `Option`
(`parseBytes`, `dec*`, `roundtripBytes`): in the model "never panics" holds by construction; that each
`none` is an `Err` and not a panic in the Rust is a correspondence fact (stream l1.pb).
-/
import AkdModel.Proto
import AkdModel.Blob
import AkdModel.Lemmas.ProtoLemmas
import AkdModel.Lemmas.ProtoBlob
namespace Akd.C19
open Akd.Proto

/-! ## well-formedness of values (what every value produced by the directory satisfies) -/

def WFLabel (l : WLabel) : Prop := l.val.length = 32 ∧ l.len ≤ 256
def WFElement (e : WElement) : Prop := WFLabel e.label ∧ e.value.length = 32
def WFSibling (s : WSibling) : Prop := WFLabel s.label ∧ WFElement s.sibling ∧ s.direction ≤ 1
def WFMembership (p : WMembership) : Prop :=
  WFLabel p.label ∧ p.hashVal.length = 32 ∧ ∀ s ∈ p.siblings, WFSibling s
def WFNonMembership (p : WNonMembership) : Prop :=
  WFLabel p.label ∧ WFLabel p.longestPrefix ∧ WFElement p.child0 ∧ WFElement p.child1 ∧ WFMembership p.mp
def WFLookup (p : WLookup) : Prop :=
  WFMembership p.existence ∧ WFMembership p.marker ∧ WFNonMembership p.freshness
def WFUpdate (p : WUpdate) : Prop :=
  WFMembership p.existence ∧ (∀ m, p.previous = some m → WFMembership m)
def WFHistory (p : WHistory) : Prop :=
  (∀ u ∈ p.updates, WFUpdate u) ∧ (∀ m ∈ p.past, WFMembership m) ∧ (∀ m ∈ p.future, WFNonMembership m)
def WFSingle (p : WSingle) : Prop := (∀ e ∈ p.inserted, WFElement e) ∧ (∀ e ∈ p.unchanged, WFElement e)
def WFAppendOnly (p : WAppendOnly) : Prop := ∀ s ∈ p.proofs, WFSingle s

/-! ## typed layer: `try_from (from x) = x` -/

section
-- the field readers compute on a message that is written out
attribute [local simp] reqMsg reqBytes reqNum optBytes PMsg.get

theorem label_roundtrip (l : WLabel) (h : WFLabel l) : decLabel (encLabel l) = some l := by
  obtain ⟨h1, h2⟩ := h
  have hm := minimize_length_le l.val
  have h3 : ¬ (minimize l.val).length > 32 := by omega
  have h4 : ¬ l.len > 256 := by omega
  simp [decLabel, encLabel, h3, h4, pad32_minimize l.val h1]

theorem element_roundtrip (e : WElement) (h : WFElement e) : decElement (encElement e) = some e := by
  obtain ⟨h1, h2⟩ := h
  simp [decElement, encElement, label_roundtrip _ h1, digest32, h2]

theorem sibling_roundtrip (s : WSibling) (h : WFSibling s) : decSibling (encSibling s) = some s := by
  obtain ⟨h1, h2, h3⟩ := h
  have hd : s.direction &&& 0xF = s.direction := by
    have : s.direction = 0 ∨ s.direction = 1 := by omega
    rcases this with h | h <;> rw [h] <;> rfl
  simp [decSibling, encSibling, label_roundtrip _ h1, msgsOf,
    element_roundtrip _ h2, hd, h3]

theorem membership_roundtrip (p : WMembership) (h : WFMembership p) : decMembership (encMembership p) = some p := by
  obtain ⟨h1, h2, h3⟩ := h
  simp [decMembership, encMembership, label_roundtrip _ h1, digest32, h2,
    msgsOf_map encSibling, mapM_dec_enc (fun s hs => sibling_roundtrip s (h3 s hs))]

theorem nonmembership_roundtrip (p : WNonMembership) (h : WFNonMembership p) :
    decNonMembership (encNonMembership p) = some p := by
  obtain ⟨h1, h2, h3, h4, h5⟩ := h
  simp [decNonMembership, encNonMembership, label_roundtrip _ h1, label_roundtrip _ h2,
    membership_roundtrip _ h5, msgsOf, element_roundtrip _ h3, element_roundtrip _ h4]

theorem lookup_roundtrip (p : WLookup) (h : WFLookup p) : decLookup (encLookup p) = some p := by
  obtain ⟨h1, h2, h3⟩ := h
  simp [decLookup, encLookup, membership_roundtrip _ h1,
    membership_roundtrip _ h2, nonmembership_roundtrip _ h3]

theorem update_roundtrip (p : WUpdate) (h : WFUpdate p) : decUpdate (encUpdate p) = some p := by
  obtain ⟨h1, h2⟩ := h
  obtain ⟨epoch, value, version, ev, ex, pv, pp, nonce⟩ := p
  have h3 : ∀ m, pp = some m → decMembership (encMembership m) = some m :=
    fun m hm => membership_roundtrip m (h2 m hm)
  -- the singular fields once, then the two optional ones by cases
  simp [decUpdate, encUpdate, membership_roundtrip _ h1]
  cases pv <;> cases pp <;> simp [h3]

theorem history_roundtrip (p : WHistory) (h : WFHistory p) : decHistory (encHistory p) = some p := by
  obtain ⟨h1, h2, h3⟩ := h
  simp [decHistory, encHistory, msgsOf_map encUpdate, msgsOf_map encMembership,
    msgsOf_map encNonMembership, bytesOf_map,
    mapM_dec_enc (fun s hs => update_roundtrip s (h1 s hs)),
    mapM_dec_enc (fun s hs => membership_roundtrip s (h2 s hs)),
    mapM_dec_enc (fun s hs => nonmembership_roundtrip s (h3 s hs))]

theorem single_roundtrip (p : WSingle) (h : WFSingle p) : decSingle (encSingle p) = some p := by
  obtain ⟨h1, h2⟩ := h
  simp [decSingle, encSingle, msgsOf_map encElement,
    mapM_dec_enc (fun s hs => element_roundtrip s (h1 s hs)),
    mapM_dec_enc (fun s hs => element_roundtrip s (h2 s hs))]

theorem appendonly_roundtrip (p : WAppendOnly) (h : WFAppendOnly p) : decAppendOnly (encAppendOnly p) = some p := by
  simp [decAppendOnly, encAppendOnly, msgsOf_map encSingle, numsOf_map,
    mapM_dec_enc (fun s hs => single_roundtrip s (h s hs))]

end

/-- an over-long label or a wrong-size digest is rejected by the conversion, not accepted -/
theorem label_too_long_rejected (m : PMsg) (v : Bytes) (n : Nat) (hv : m.get 1 = [.bytes v]) (hn : m.get 2 = [.num n])
    (h : 32 < v.length ∨ 256 < n) : decLabel m = none := by
  simp only [decLabel, reqNum, reqBytes, hv, hn]
  rcases h with h | h
  · simp [h]
  · by_cases h' : v.length > 32 <;> simp [h, h']

theorem digest_wrong_size_rejected (m : PMsg) (lm : PMsg) (v : Bytes) (hl : m.get 1 = [.msg lm]) (hv : m.get 2 = [.bytes v])
    (h : v.length ≠ 32) : decElement m = none := by
  simp only [decElement, reqMsg, reqBytes, hv, hl, digest32]
  cases decLabel lm <;> simp [h]

theorem varint64_roundtrip (n : Nat) (h : n < 2 ^ 64) (rest : Bytes) :
    readVarint64 (writeVarint n ++ rest) = some (n, rest) := readVarint64_write n h rest

theorem varint32_roundtrip (n : Nat) (h : n < 2 ^ 32) (rest : Bytes) :
    readVarint32 (writeVarint n ++ rest) = some (n, rest) := readVarint32_write n h rest

/-- a message built by the `enc*` functions: fields with the kinds of the schema, numbers in range,
nesting depth bounded (defined by recursion on the depth) -/
def MsgOK : Nat → MsgTy → PMsg → Prop
  | 0, _, _ => False
  | d + 1, ty, m =>
    m.map (·.1) = (m.map (·.1)).eraseDups ∧
    ∀ n vs, (n, vs) ∈ m → ∃ f, findSpec ty n = some f ∧
      (f.repeated = false → vs.length ≤ 1) ∧
      ∀ v ∈ vs, match v, f.kind with
        | .bytes b, .bytes => b.length < 2 ^ 31
        | .num k, .uint32 => k < 2 ^ 32
        | .num k, .uint64 => k < 2 ^ 64
        | .msg sub, .msg sty => MsgOK d sty sub ∧ (writeMsgF d sty sub).length < 2 ^ 31
        | _, _ => False

/-- two parsed messages are the same up to representation: for every field number the same values in
the same order (`ListRel`: same length, pointwise), nested messages compared the same way one level
down.  What is abstracted is the order of the keys of the association list and the difference between
an absent key and a key with no values — the parser never produces the latter, `enc*` does (a
membership proof without siblings); the conversions `dec*` cannot tell the difference
(`decLookup_eqv` …). -/
def MsgEqv : Nat → PMsg → PMsg → Prop
  | 0, _, _ => False
  | d + 1, a, b => ∀ n, ListRel (fun x y => match x, y with
      | .bytes p, .bytes q => p = q
      | .num p, .num q => p = q
      | .msg s, .msg t => MsgEqv d s t
      | _, _ => False) (a.get n) (b.get n)

theorem MsgOK.fields {d ty m} (h : MsgOK (d + 1) ty m) : FieldsOK (MsgOK d) d ty m := h.2
theorem MsgEqv.fields : ∀ {d a b}, MsgEqv d a b → ∃ d', FieldsEqv (MsgEqv d') a b
  | 0, _, _, h => h.elim
  | d + 1, _, _, h => ⟨d, h⟩

theorem parse_write : ∀ (d : Nat) (ty : MsgTy) (m : PMsg) (fuel level : Nat), MsgOK d ty m → d ≤ fuel →
    level + d ≤ 100 → ∃ m', MsgEqv d m' m ∧ ∀ tail lim, (writeMsgF d ty m).length ≤ lim →
      (tail = [] ∨ lim = (writeMsgF d ty m).length) →
      parseMsg fuel level ty ⟨writeMsgF d ty m ++ tail, lim⟩ = some (m', ⟨tail, lim - (writeMsgF d ty m).length⟩)
  | 0, _, _, _, _, h, _, _ => h.elim
  | d + 1, ty, m, fuel, level, hm, hfuel, hlev => by
    obtain ⟨fuel, rfl⟩ : ∃ j, fuel = j + 1 := ⟨fuel - 1, by omega⟩
    refine parse_fields hm.fields (by omega) fun sty sub hsub => ?_
    obtain ⟨m', he, hp⟩ := parse_write d sty sub fuel (level + 1) hsub (by omega) (by omega)
    exact ⟨m', he, fun tail => by simpa using hp tail _ (Nat.le_refl _) (Or.inr rfl)⟩

/-- **wire round trip**: parsing what the canonical writer wrote gives back the same fields.

Neither the conclusion nor the hypotheses can be made simpler (counterexamples evaluated with `#eval`):
* `∀ n, m'.get n = m.get n` is false as soon as a nested message is not in the parser's own normal form
  (keys in order of appearance, no key without values): for
  `m = [(1, [.msg [(2, [.num 5]), (1, [.bytes []])]])]` at `azksElement` the parser returns the nested
  label as `[(1, …), (2, …)]`; and `encMembership` of a proof without siblings has the entry `(3, [])`
  that no parsed message has.  Hence `MsgEqv 12 m' m`.
* without `hlen`: the top-level stream has limit `2 ^ 64` (`parseBytes`), `MsgOK` bounds nested
  messages only; a top-level repeated field can make the encoding longer, and then the parser stops at
  the limit and returns a prefix of the values. -/
theorem wire_roundtrip (ty : MsgTy) (m : PMsg) (h : MsgOK 12 ty m) (hlen : (writeMsg ty m).length ≤ 2 ^ 64) :
    ∃ m', parseBytes ty (writeMsg ty m) = some m' ∧ MsgEqv 12 m' m := by
  obtain ⟨m', he, hp⟩ := parse_write 12 ty m 120 0 h (by decide) (by decide)
  refine ⟨m', ?_, he⟩
  have := hp [] (2 ^ 64) hlen (Or.inl rfl)
  rw [List.append_nil] at this
  unfold parseBytes writeMsg
  rw [this]
  rfl

theorem MsgEqv_get_scalar (d : Nat) (a b : PMsg) (h : MsgEqv (d + 1) a b) (n : Nat)
    (hs : ∀ v ∈ b.get n, ∀ s, v ≠ .msg s) : a.get n = b.get n :=
  ListRel.eq_of_scalars (h n) hs

theorem decLabel_eqv {d} (a b : PMsg) (h : MsgEqv d a b) : decLabel a = decLabel b := by
  obtain ⟨d, h⟩ := h.fields
  unfold decLabel
  rw [rel_reqNum h 2, rel_reqBytes h 1]

theorem decElement_eqv {d} (a b : PMsg) (h : MsgEqv d a b) : decElement a = decElement b := by
  obtain ⟨d, h⟩ := h.fields
  unfold decElement
  rw [rel_reqBytes h 2]
  exact rel_reqMsg h 1 fun s t hst => by rw [decLabel_eqv s t hst]

theorem decSibling_eqv {d} (a b : PMsg) (h : MsgEqv d a b) : decSibling a = decSibling b := by
  obtain ⟨d, h⟩ := h.fields
  unfold decSibling
  rw [rel_reqNum h 3]
  refine bind_congr fun dir => rel_reqMsg h 1 fun s t hst => ?_
  rw [decLabel_eqv s t hst]
  refine bind_congr fun label => msgsOf_bind (h 2) fun l l' hl => rel_head? hl fun x y hxy => ?_
  rw [decElement_eqv x y hxy]

theorem decMembership_eqv {d} (a b : PMsg) (h : MsgEqv d a b) : decMembership a = decMembership b := by
  obtain ⟨d, h⟩ := h.fields
  unfold decMembership
  rw [rel_reqBytes h 2]
  simp only [rel_msgsOf_mapM h 3 decSibling_eqv]
  exact rel_reqMsg h 1 fun s t hst => by rw [decLabel_eqv s t hst]

theorem decNonMembership_eqv {d} (a b : PMsg) (h : MsgEqv d a b) : decNonMembership a = decNonMembership b := by
  obtain ⟨d, h⟩ := h.fields
  unfold decNonMembership
  simp only [rel_msgsOf_mapM h 3 decElement_eqv]
  exact rel_reqMsg h 1 fun s t hst => rel_reqMsg h 2 fun s' t' hst' => rel_reqMsg h 4 fun p q hpq => by
    rw [decLabel_eqv s t hst, decLabel_eqv s' t' hst', decMembership_eqv p q hpq]

theorem decLookup_eqv {d} (a b : PMsg) (h : MsgEqv d a b) : decLookup a = decLookup b := by
  obtain ⟨d, h⟩ := h.fields
  unfold decLookup
  rw [rel_reqNum h 1, rel_reqBytes h 2, rel_reqNum h 3, rel_reqBytes h 4, rel_reqBytes h 6,
    rel_reqBytes h 8, rel_reqBytes h 10]
  -- each nested proof sits under the binds of the scalar fields read before it
  iterate 4 refine bind_congr fun _ => ?_
  refine rel_reqMsg h 5 fun s t hst => bind_congr fun _ => ?_
  refine rel_reqMsg h 7 fun s' t' hst' => bind_congr fun _ => ?_
  refine rel_reqMsg h 9 fun p q hpq => ?_
  rw [decMembership_eqv s t hst, decMembership_eqv s' t' hst', decNonMembership_eqv p q hpq]

theorem decUpdate_eqv {d} (a b : PMsg) (h : MsgEqv d a b) : decUpdate a = decUpdate b := by
  obtain ⟨d, h⟩ := h.fields
  unfold decUpdate
  rw [rel_reqNum h 1, rel_reqBytes h 2, rel_reqNum h 3, rel_reqBytes h 4, rel_reqBytes h 8, rel_optBytes h 6]
  iterate 4 refine bind_congr fun _ => ?_
  refine rel_reqMsg h 5 fun s t hst => bind_congr fun _ => bind_congr fun _ => ?_
  rw [decMembership_eqv s t hst]
  rcases (h 7).cases₁ with ⟨e1, e2⟩ | ⟨x, y, e1, e2, hxy⟩ | ⟨x, _, _, y, _, _, e1, e2⟩ <;> rw [e1, e2]
  · rcases hxy.cases with ⟨p, rfl, rfl⟩ | ⟨p, rfl, rfl⟩ | ⟨s, t, rfl, rfl, hst⟩
    · rfl
    · rfl
    · simp only [decMembership_eqv s t hst]
  · cases x <;> cases y <;> rfl

theorem decHistory_eqv {d} (a b : PMsg) (h : MsgEqv d a b) : decHistory a = decHistory b := by
  obtain ⟨d, h⟩ := h.fields
  unfold decHistory
  rw [rel_bytesOf h 2, rel_bytesOf h 4]
  simp only [rel_msgsOf_mapM h 1 decUpdate_eqv, rel_msgsOf_mapM h 3 decMembership_eqv,
    rel_msgsOf_mapM h 5 decNonMembership_eqv]

theorem decSingle_eqv {d} (a b : PMsg) (h : MsgEqv d a b) : decSingle a = decSingle b := by
  obtain ⟨d, h⟩ := h.fields
  unfold decSingle
  simp only [rel_msgsOf_mapM h 1 decElement_eqv, rel_msgsOf_mapM h 2 decElement_eqv]

theorem decAppendOnly_eqv {d} (a b : PMsg) (h : MsgEqv d a b) : decAppendOnly a = decAppendOnly b := by
  obtain ⟨d, h⟩ := h.fields
  unfold decAppendOnly
  rw [rel_numsOf h 2]
  simp only [rel_msgsOf_mapM h 1 decSingle_eqv]

/-- hence a well-formed lookup proof survives encode → bytes → parse → convert unchanged (the other
proof types follow the same way); no length hypothesis: all fields of a lookup proof are singular, so
`MsgOK` bounds the whole encoding -/
theorem lookup_bytes_roundtrip (p : WLookup) (h : WFLookup p) (hok : MsgOK 12 .lookupProof (encLookup p)) :
    ∃ m', parseBytes .lookupProof (writeMsg .lookupProof (encLookup p)) = some m' ∧ decLookup m' = some p := by
  have hlen : (writeMsg .lookupProof (encLookup p)).length ≤ 2 ^ 64 := by
    have hb : (writeMsgF 12 .lookupProof (encLookup p)).length ≤ 10 * (2 ^ 31 + 20) :=
      writeMsgF_length_singular hok.fields (by decide)
    unfold writeMsg
    omega
  obtain ⟨m', hp, he⟩ := wire_roundtrip .lookupProof (encLookup p) hok hlen
  exact ⟨m', hp, by rw [decLookup_eqv _ _ he, lookup_roundtrip p h]⟩

/-- `hlen`: the top-level fields are repeated (see `wire_roundtrip`) -/
theorem history_bytes_roundtrip (p : WHistory) (h : WFHistory p) (hok : MsgOK 12 .historyProof (encHistory p))
    (hlen : (writeMsg .historyProof (encHistory p)).length ≤ 2 ^ 64) :
    ∃ m', parseBytes .historyProof (writeMsg .historyProof (encHistory p)) = some m' ∧ decHistory m' = some p := by
  obtain ⟨m', hp, he⟩ := wire_roundtrip .historyProof (encHistory p) hok hlen
  exact ⟨m', hp, by rw [decHistory_eqv _ _ he, history_roundtrip p h]⟩

/-- `hlen`: the top-level fields are repeated (see `wire_roundtrip`) -/
theorem appendonly_bytes_roundtrip (p : WAppendOnly) (h : WFAppendOnly p) (hok : MsgOK 12 .appendOnly (encAppendOnly p))
    (hlen : (writeMsg .appendOnly (encAppendOnly p)).length ≤ 2 ^ 64) :
    ∃ m', parseBytes .appendOnly (writeMsg .appendOnly (encAppendOnly p)) = some m' ∧ decAppendOnly m' = some p := by
  obtain ⟨m', hp, he⟩ := wire_roundtrip .appendOnly (encAppendOnly p) hok hlen
  exact ⟨m', hp, by rw [decAppendOnly_eqv _ _ he, appendonly_roundtrip p h]⟩

/-- the same as an equation on `roundtripBytes` (what the harness stream `l1.pb` observes) -/
theorem lookup_roundtripBytes (p : WLookup) (h : WFLookup p) (hok : MsgOK 12 .lookupProof (encLookup p)) :
    roundtripBytes .lookupProof (writeMsg .lookupProof (encLookup p)) =
      some (some (writeMsg .lookupProof (encLookup p))) := by
  obtain ⟨m', hp, hd⟩ := lookup_bytes_roundtrip p h hok
  simp [roundtripBytes, hp, hd]

/-! ### non-vacuity: a concrete lookup proof with one sibling level -/

def exLabel : WLabel := ⟨List.replicate 31 0x11 ++ [0], 256⟩
def exElement : WElement := ⟨exLabel, List.replicate 32 0x22⟩
def exMembership : WMembership := ⟨exLabel, List.replicate 32 0x33, [⟨exLabel, exElement, 1⟩]⟩
def exLookup : WLookup :=
  { epoch := 300, value := [1, 2, 3], version := 2, existenceVrf := [9, 9], existence := exMembership,
    markerVrf := [8], marker := exMembership, freshnessVrf := [7],
    freshness := ⟨exLabel, exLabel, exElement, exElement, exMembership⟩, nonce := [4, 5] }

/-- executable check of `MsgOK` -/
def msgOKb : Nat → MsgTy → PMsg → Bool
  | 0, _, _ => false
  | d + 1, ty, m =>
    decide (m.map (·.1) = (m.map (·.1)).eraseDups) &&
    m.all fun e =>
      match findSpec ty e.1 with
      | none => false
      | some f =>
        (f.repeated || decide (e.2.length ≤ 1)) &&
        e.2.all fun v =>
          match v, f.kind with
          | .bytes b, .bytes => decide (b.length < 2 ^ 31)
          | .num k, .uint32 => decide (k < 2 ^ 32)
          | .num k, .uint64 => decide (k < 2 ^ 64)
          | .msg sub, .msg sty => msgOKb d sty sub && decide ((writeMsgF d sty sub).length < 2 ^ 31)
          | _, _ => false

theorem msgOKb_sound : ∀ d ty m, msgOKb d ty m = true → MsgOK d ty m
  | 0, _, _, h => by simp [msgOKb] at h
  | d + 1, ty, m, h => by
    simp only [msgOKb, Bool.and_eq_true, decide_eq_true_eq, List.all_eq_true] at h
    refine ⟨h.1, fun n vs hmem => ?_⟩
    have h2 := h.2 (n, vs) hmem
    simp only at h2
    cases hf : findSpec ty n with
    | none => simp [hf] at h2
    | some f =>
      simp only [hf, Bool.and_eq_true, Bool.or_eq_true, decide_eq_true_eq, List.all_eq_true] at h2
      refine ⟨f, rfl, fun hr => ?_, fun v hv => ?_⟩
      · rcases h2.1 with h3 | h3
        · rw [hr] at h3; cases h3
        · exact h3
      · have h3 := h2.2 v hv
        obtain ⟨num, kind, rep⟩ := f
        cases v <;> cases kind <;> simp only [Bool.and_eq_true, decide_eq_true_eq, Bool.false_eq_true] at h3 ⊢
        all_goals first | exact h3 | exact ⟨msgOKb_sound d _ _ h3.1, h3.2⟩

theorem exLookup_wf : WFLookup exLookup := by
  unfold WFLookup WFNonMembership WFMembership WFSibling WFElement WFLabel
  decide

theorem exLookup_ok : MsgOK 12 .lookupProof (encLookup exLookup) := msgOKb_sound _ _ _ (by decide +kernel)

example : decLookup (encLookup exLookup) = some exLookup := lookup_roundtrip _ exLookup_wf

/-- `parseMsg` is defined by well-founded recursion and does not reduce by `decide`/`rfl`; the equation
is an instance of the theorem (and is what `#eval` gives) -/
example : roundtripBytes .lookupProof (writeMsg .lookupProof (encLookup exLookup)) =
    some (some (writeMsg .lookupProof (encLookup exLookup))) :=
  lookup_roundtripBytes _ exLookup_wf exLookup_ok

example : (writeMsg .lookupProof (encLookup exLookup)).length = 824 := by decide +kernel

theorem blobname_roundtrip (n : Blob.Name) (he : n.epoch < 2 ^ 64) (hp : n.previous.length = 32)
    (hc : n.current.length = 32) : Blob.parse? (Blob.render n) = some n :=
  Blob.parse_render n he hp hc

end Akd.C19
