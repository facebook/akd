/-
C13 (record level) — every node read "as of epoch t" returns the version that was current at t,
or an error: the snapshot-read property of the versioned node records (`Rec.lean`,
`tree_node.rs:62-345`), for a reader lagging by ANY number of epochs and for ANY sequence of writes
(including repeated writes within one epoch and the decompression rewrite that keeps the epoch).
With it, a request that fixes its target epoch once reads the tree of that epoch or fails.
-/
import AkdModel.Rec
import AkdModel.Lemmas.RecLemmas
namespace Akd.C13
open Akd

/-- the `parent` field is bookkeeping no proof reads (it is rewritten when a node is pushed down) -/
def eraseParent (n : TreeNode) : TreeNode := { n with parent := NodeLabel.root }

/-- the versions a node has gone through, oldest first, with strictly increasing epochs -/
def VersionsOK (vs : List TreeNode) : Prop := vs.Pairwise (fun a b => a.lastEpoch < b.lastEpoch)

/-- the version that was current at epoch `t` -/
def versionAt (vs : List TreeNode) (t : Nat) : Option TreeNode :=
  (vs.filter (fun v => v.lastEpoch ≤ t)).getLast?

/-- a stored record agrees with the node's history: `latest` is the newest version, `previous` is
absent or the one before it (all modulo `parent`) -/
def RecOK (r : NodeRec) (vs : List TreeNode) : Prop :=
  VersionsOK vs ∧
  (∃ last, vs.getLast? = some last ∧ eraseParent r.latest = eraseParent last) ∧
  (r.previous = none ∨
    ∃ p q, r.previous = some p ∧ vs.dropLast.getLast? = some q ∧ eraseParent p = eraseParent q)

/-- the history after writing node `n` (epoch not older than the newest version): a write within the
newest version's epoch replaces that version, a later one appends -/
def pushVersion (vs : List TreeNode) (n : TreeNode) : List TreeNode :=
  match vs.getLast? with
  | some last => if n.lastEpoch = last.lastEpoch then vs.dropLast ++ [n] else vs ++ [n]
  | none => [n]

theorem eraseParent_lastEpoch (n : TreeNode) : (eraseParent n).lastEpoch = n.lastEpoch := rfl

theorem lastEpoch_of_eraseParent_eq {a b : TreeNode} (h : eraseParent a = eraseParent b) :
    a.lastEpoch = b.lastEpoch :=
  (congrArg TreeNode.lastEpoch h :)

theorem resolve_current (r : NodeRec) (t : Nat) (h : r.latest.lastEpoch ≤ t) : r.resolve t = .ok r.latest := by
  unfold NodeRec.resolve
  rw [if_neg (by omega)]

theorem resolve_of_lt_none (r : NodeRec) (t : Nat) (h : t < r.latest.lastEpoch) (hp : r.previous = none) :
    r.resolve t = .error .notFound := by
  unfold NodeRec.resolve
  rw [if_pos h, hp]

theorem resolve_of_lt_some (r : NodeRec) (t : Nat) (p : TreeNode) (h : t < r.latest.lastEpoch)
    (hp : r.previous = some p) :
    r.resolve t = if p.lastEpoch > t then .error .notFound else .ok p := by
  unfold NodeRec.resolve
  rw [if_pos h, hp]

theorem versionAt_concat_of_le (ys : List TreeNode) {a : TreeNode} {t : Nat} (h : a.lastEpoch ≤ t) :
    versionAt (ys ++ [a]) t = some a := by
  unfold versionAt
  rw [List.filter_append, List.filter_cons_of_pos (p := fun v : TreeNode => decide (v.lastEpoch ≤ t)) (decide_eq_true h)]
  exact List.getLast?_concat

theorem versionAt_concat_of_lt (ys : List TreeNode) {a : TreeNode} {t : Nat} (h : t < a.lastEpoch) :
    versionAt (ys ++ [a]) t = versionAt ys t := by
  unfold versionAt
  rw [List.filter_append, List.filter_cons_of_neg (p := fun v : TreeNode => decide (v.lastEpoch ≤ t)) (by simpa using h)]
  exact congrArg _ (List.append_nil _)

/-- **snapshot read** (full strength, for the repaired `determine_node_to_get`): whatever epoch `t` a
reader targets — however far behind — it gets the version current at `t`, or an error -/
theorem snapshot_read (r : NodeRec) (vs : List TreeNode) (t : Nat) (h : RecOK r vs) :
    r.resolve t = .error .notFound ∨
    ∃ n v, r.resolve t = .ok n ∧ versionAt vs t = some v ∧ eraseParent n = eraseParent v := by
  obtain ⟨-, ⟨last, hl, hle⟩, hprev⟩ := h
  have hepo := lastEpoch_of_eraseParent_eq hle
  obtain ⟨ys, rfl⟩ := List.getLast?_eq_some_iff.1 hl
  by_cases hlt : t < r.latest.lastEpoch
  · rcases hprev with hn | ⟨p, q, hp, hq, hpq⟩
    · exact .inl (resolve_of_lt_none r t hlt hn)
    · have hpe := lastEpoch_of_eraseParent_eq hpq
      rw [resolve_of_lt_some r t p hlt hp]
      by_cases hpt : p.lastEpoch > t
      · exact .inl (if_pos hpt)
      · refine .inr ⟨p, q, if_neg hpt, ?_, hpq⟩
        -- the newest version is too new for `t`, the one before it is not
        rw [List.dropLast_concat] at hq
        obtain ⟨zs, rfl⟩ := List.getLast?_eq_some_iff.1 hq
        rw [versionAt_concat_of_lt _ (by omega), versionAt_concat_of_le _ (by omega)]
  · exact .inr ⟨r.latest, last, resolve_current r t (by omega), versionAt_concat_of_le _ (by omega), hle⟩

/-- a reader exactly one version behind succeeds whenever the previous version is retained -/
theorem resolve_lag1 (r : NodeRec) (vs : List TreeNode) (t : Nat) (h : RecOK r vs) (p : TreeNode)
    (hp : r.previous = some p) (ht : p.lastEpoch ≤ t) (hlt : t < r.latest.lastEpoch) :
    r.resolve t = .ok p := by
  have _ := h  -- the invariant is not needed: `resolve` looks at the record only
  rw [resolve_of_lt_some r t p hlt hp, if_neg (by omega)]

/-- the invariant is preserved by `write_to_storage` of a non-new node, for every write whose epoch is
not older than the newest version (same-epoch rewrites and the epoch-preserving decompression
rewrite included) -/
theorem write_preserves (s : NodeStore) (n : TreeNode) (vs : List TreeNode) (r : NodeRec)
    (hr : s.getRec n.label = some r) (hok : RecOK r vs)
    (hmono : ∀ last, vs.getLast? = some last → last.lastEpoch ≤ n.lastEpoch)
    (hsame : ∀ last, vs.getLast? = some last → n.lastEpoch = last.lastEpoch →
        1 ≤ n.lastEpoch)  -- epoch 0 only ever holds the initial root, written once
    : ∃ s' r', s.writeNode n false = .ok s' ∧ s'.getRec n.label = some r' ∧ RecOK r' (pushVersion vs n) := by
  obtain ⟨hv, ⟨last, hl, hle⟩, hprev⟩ := hok
  have hepo := lastEpoch_of_eraseParent_eq hle
  have hm := hmono last hl
  have hpos : n.lastEpoch > 0 := by
    by_cases heq : n.lastEpoch = last.lastEpoch
    · exact hsame last hl heq
    · omega
  refine ⟨_, _, NodeStore.writeNode_old s n r hr, NodeStore.getRec_setRec_self s ⟨n.label, n, _⟩, ?_⟩
  unfold pushVersion
  rw [hl, if_pos hpos]
  dsimp only
  obtain ⟨ys, rfl⟩ := List.getLast?_eq_some_iff.1 hl
  obtain ⟨hys, hlt⟩ := (increasing_concat _).1 hv
  by_cases heq : n.lastEpoch = last.lastEpoch
  · -- a rewrite within the newest version's epoch (which is not epoch 0): `previous` stays
    rw [if_pos heq, List.dropLast_concat]
    refine ⟨(increasing_concat _).2 ⟨hys, fun x hx => heq ▸ hlt x hx⟩, ⟨n, List.getLast?_concat, rfl⟩, ?_⟩
    rw [List.dropLast_concat]
    rcases hprev with hn | ⟨p, q, hp, hq, hpq⟩
    · exact .inl (by rw [resolve_of_lt_none r _ (by omega) hn]; rfl)
    · rw [List.dropLast_concat] at hq
      have hpe := lastEpoch_of_eraseParent_eq hpq
      have hql := hlt q (List.mem_of_getLast? hq)
      exact .inr ⟨p, q, by rw [resolve_of_lt_some r _ p (by omega) hp, if_neg (by omega)]; rfl, hq, hpq⟩
  · -- a write at a later epoch: the newest version becomes the previous one
    rw [if_neg heq]
    refine ⟨(increasing_concat _).2 ⟨hv, fun x hx => ?_⟩, ⟨n, List.getLast?_concat, rfl⟩,
      .inr ⟨r.latest, last, by rw [resolve_current r _ (by omega)]; rfl, by rw [List.dropLast_concat]; exact hl, hle⟩⟩
    rcases List.mem_append.1 hx with hx | hx
    · exact Nat.lt_trans (hlt x hx) (by omega)
    · cases List.mem_singleton.1 hx; omega

theorem write_new (s : NodeStore) (n : TreeNode) :
    ∃ s' r', s.writeNode n true = .ok s' ∧ s'.getRec n.label = some r' ∧ RecOK r' [n] :=
  ⟨_, _, NodeStore.writeNode_new s n, NodeStore.getRec_setRec_self s ⟨n.label, n, none⟩,
    List.pairwise_singleton _ _, ⟨n, rfl, rfl⟩, .inl rfl⟩

theorem write_frame (s s' : NodeStore) (n : TreeNode) (isNew : Bool) (k : NodeLabel)
    (h : s.writeNode n isNew = .ok s') (hk : k ≠ n.label) : s'.getRec k = s.getRec k := by
  obtain ⟨p, hp⟩ := NodeStore.writeNode_ok s n isNew
  rw [hp] at h
  injection h with h
  rw [← h]
  exact NodeStore.getRec_setRec_ne s _ k hk

/-- a version of epoch `e` (all other fields fixed) -/
def exV (e : Nat) : TreeNode := ⟨NodeLabel.root, e, e, NodeLabel.root, .root, none, none, .raw []⟩

/-- a node written at epochs 1, 3 and 5 -/
def exHist : List TreeNode := [exV 1, exV 3, exV 5]

/-- its record: the newest version and the one before -/
def exRec : NodeRec := ⟨NodeLabel.root, exV 5, some (exV 3)⟩

theorem exRec_ok : RecOK exRec exHist := by
  refine ⟨?_, ⟨exV 5, rfl, rfl⟩, .inr ⟨exV 3, exV 3, rfl, rfl, rfl⟩⟩
  simp [VersionsOK, exHist, exV]

theorem versionAt_exHist_1 : versionAt exHist 1 = some (exV 1) := by
  simp [versionAt, exHist, exV]

theorem versionAt_exHist_3 : versionAt exHist 3 = some (exV 3) := by
  simp [versionAt, exHist, exV]

theorem versionAt_exHist_5 : versionAt exHist 5 = some (exV 5) := by
  simp [versionAt, exHist, exV]

/-- non-vacuity: `RecOK` is satisfiable, and `snapshot_read` at each epoch of the history -/
example : exRec.resolve 1 = .error .notFound ∨
    ∃ n v, exRec.resolve 1 = .ok n ∧ versionAt exHist 1 = some v ∧ eraseParent n = eraseParent v :=
  snapshot_read exRec exHist 1 exRec_ok
example : exRec.resolve 3 = .error .notFound ∨
    ∃ n v, exRec.resolve 3 = .ok n ∧ versionAt exHist 3 = some v ∧ eraseParent n = eraseParent v :=
  snapshot_read exRec exHist 3 exRec_ok
example : exRec.resolve 5 = .error .notFound ∨
    ∃ n v, exRec.resolve 5 = .ok n ∧ versionAt exHist 5 = some v ∧ eraseParent n = eraseParent v :=
  snapshot_read exRec exHist 5 exRec_ok

/-- which disjunct holds: two versions behind the reader gets an error (the version of epoch 1 is no
longer retained), at epochs 3 and 5 it gets exactly the version current then -/
example : exRec.resolve 1 = .error .notFound := rfl
example : exRec.resolve 3 = .ok (exV 3) ∧ versionAt exHist 3 = some (exV 3) := ⟨rfl, versionAt_exHist_3⟩
example : exRec.resolve 4 = .ok (exV 3) ∧ versionAt exHist 4 = some (exV 3) :=
  ⟨rfl, by simp [versionAt, exHist, exV]⟩
example : exRec.resolve 5 = .ok (exV 5) ∧ versionAt exHist 5 = some (exV 5) := ⟨rfl, versionAt_exHist_5⟩

/-- the pinned commit returned `previous` without looking at its epoch: a reader two epochs behind
is served the version of epoch t+1 (defect D4) -/
theorem lag2_witness :
    ∃ (r : NodeRec) (vs : List TreeNode) (t : Nat) (n : TreeNode), RecOK r vs ∧
      r.resolveLegacy t = .ok n ∧ t < n.lastEpoch ∧ versionAt vs t ≠ some n ∧
      r.resolve t = .error .notFound := by
  refine ⟨exRec, exHist, 1, exV 3, exRec_ok, rfl, by decide, ?_, rfl⟩
  rw [versionAt_exHist_1]
  intro h
  have := congrArg TreeNode.lastEpoch (Option.some.inj h)
  exact absurd this (by decide)

end Akd.C13
