/-
C08 — lookup and history verifiers agree on a label's latest version under one root.

The property is about any tree, so it reduces to arithmetic on the version sets
the two verifiers force to be present / absent (DESIGN §7/C08):

* a history proof for the range `[s, n]` at epoch `E` forces fresh `{s..n} ∪ past s`
  present, stale `{v-1 | v ∈ [s,n], v ≥ 2}` present, fresh `future n E` absent;
* a lookup proof for version `m` at `E` forces fresh `m` and fresh `2^⌊log₂ m⌋` present,
  stale `m` absent, and `m ≤ E`.

Two accepted proofs are contradictory iff one forces present what the other forces absent.
-/
import AkdModel.Marker
import AkdModel.Lemmas.MarkerLemmas
namespace Akd.C08
open Akd.Marker

def past (s : Nat) : List Nat := (past? s).getD []
def future (n E : Nat) : List Nat := (future? n E).getD []

/-- history `[s,n]` vs history `[s',m]` with `n < m`: some fresh version is shown absent by
the first and present by the second. -/
def conflictHH (n s' m E : Nat) : Bool :=
  (future n E).any fun x => (past s').contains x || (s' ≤ x && x ≤ m)

/-- complete history with latest `n` vs lookup of `m ≠ n`. -/
def conflictHL (n m E : Nat) : Bool :=
  if m < n then true  -- stale `m` is present for the history (version m+1 ∈ [2,n]) and absent for the lookup
  else (future n E).any fun x => x == m || x == 2 ^ Nat.log2 m

/-- the function does not panic on the inputs its callers produce -/
theorem markers_no_panic (s n E : Nat) (hs : 1 ≤ s) (hsn : s ≤ n) (hn : n ≤ E) :
    (markers? s n E).isSome = true := by
  obtain ⟨p, hp⟩ := Option.isSome_iff_exists.1 (past?_isSome hs)
  have hn1 : 1 ≤ n := by omega
  simp [markers?, hp, future?_eq, hn1, Nat.le_trans hn1 hn, maxIdx_mono hn1 hn]

theorem past_lt_start (s x : Nat) (h : x ∈ past s) : 1 ≤ x ∧ x < s :=
  Akd.Marker.past_bounds h

theorem future_bounds (n E x : Nat) (h : x ∈ future n E) : n < x ∧ x ≤ E :=
  Akd.Marker.future_bounds h

theorem succ_mem_future (n E : Nat) (hn : 1 ≤ n) (h : n + 1 ≤ E) : n + 1 ∈ future n E := by
  obtain ⟨x, hx, hx' | hx'⟩ := exists_future_past hn (Nat.lt_add_one n) h
  · subst hx'; exact hx
  · have h1 := Akd.Marker.future_bounds hx
    have h2 := Akd.Marker.past_bounds hx'
    omega

/-- **Full strength, unbounded**: no two history proofs with different latest versions are
both consistent with one tree. -/
theorem history_history_agree (s n s' m E : Nat)
    (hs : 1 ≤ s) (hsn : s ≤ n) (hs' : 1 ≤ s') (hsm : s' ≤ m) (hnm : n < m) (hmE : m ≤ E) :
    conflictHH n s' m E = true := by
  have hn : 1 ≤ n := Nat.le_trans hs hsn
  have _ := hs'  -- `1 ≤ s'` is not needed: `s' = 0` falls under `s' ≤ n + 1`
  simp only [conflictHH, List.any_eq_true, Bool.or_eq_true, Bool.and_eq_true, decide_eq_true_eq,
    List.contains_iff_mem]
  by_cases hc : s' ≤ n + 1
  · exact ⟨n + 1, succ_mem_future n E hn (by omega), Or.inr ⟨hc, by omega⟩⟩
  · obtain ⟨x, hx, hx' | hx'⟩ :=
      exists_future_past (n := n) (t := s') (E := E) hn (by omega) (by omega)
    · exact ⟨x, hx, Or.inr ⟨by omega, by omega⟩⟩
    · exact ⟨x, hx, Or.inl hx'⟩

/-- a lookup for a version below the history's latest is always contradicted (stale `m`). -/
theorem lookup_below_history (n m E : Nat) (h : m < n) : conflictHL n m E = true := by
  simp [conflictHL, h]

/-- the next version is always contradicted. -/
theorem lookup_succ_history (n E : Nat) (hn : 1 ≤ n) (h : n + 1 ≤ E) :
    conflictHL n (n + 1) E = true := by
  have hlt : ¬ n + 1 < n := by omega
  simp only [conflictHL, hlt, if_false, List.any_eq_true, Bool.or_eq_true, beq_iff_eq]
  exact ⟨n + 1, succ_mem_future n E hn h, Or.inl rfl⟩

/-- exact characterisation for `n < m`. -/
theorem lookup_history_conflict_iff (n m E : Nat) (h : n < m) :
    conflictHL n m E = true ↔ (m ∈ future n E ∨ 2 ^ Nat.log2 m ∈ future n E) := by
  have hlt : ¬ m < n := by omega
  simp only [conflictHL, hlt, if_false, List.any_eq_true, Bool.or_eq_true, beq_iff_eq]
  constructor
  · rintro ⟨x, hx, rfl | rfl⟩
    · exact Or.inl hx
    · exact Or.inr hx
  · rintro (h | h)
    · exact ⟨_, h, Or.inl rfl⟩
    · exact ⟨_, h, Or.inr rfl⟩

/-- **The full-strength lookup/history clause is false for the code as it is**: smallest gap. -/
theorem lookup_history_gap_witness : conflictHL 4 7 7 = false := by decide

/-- the instance reproduced on the real verifiers (finding C08-F1). -/
theorem lookup_history_gap_witness_33 : conflictHL 5 33 33 = false := by decide

/-! non-vacuity: the hypotheses of `history_history_agree` are met by concrete ranges -/
example : conflictHH 5 20 33 33 = true := by decide
example : (markers? 85 85 1000) = some ([16, 64, 80, 84], [86, 88, 96, 128, 256]) := by decide

end Akd.C08
