/-
C20, history clause — after tombstoning, "the label's history still verifies when the verifier allows missing
values, reporting the same versions and epochs with tombstoned values empty and later values intact, while a
verifier that does not allow missing values rejects exactly those histories that include a tombstoned entry".

`d` is any directory state reached by publishes (`Refines c d sp`), `d'` the state after
`tombstone_value_states(u, cut)`.  The epoch hash is unchanged (`C20.tombstone_epochHash`); here: what the
history request of `d'` returns and what the two verifiers make of it.
-/
import AkdModel.Thm.C20
import AkdModel.Lemmas.TombHistory
namespace Akd.C20
open Akd C01

/-- **allow mode**: the history request on the tombstoned directory succeeds with the unchanged epoch hash, and the
verifier that allows missing values accepts it: same versions and epochs, tombstoned values empty, later values intact -/
theorem tombstone_history_allow (c : Cfg) (hc : c.Lawful) (hce : c.emptyLabel.len = 0) (hfresh : C05.EmptyLabelFresh c)
    (d d' : Dir) (sp : Spec.State) (users : List Bytes) (N : Nat)
    (hv : C06.VrfOK d.vrf) (ht : VrfTotal d.vrf users N) (hN : sp.epoch + 1 ≤ N)
    (hu : ∀ x ∈ sp.table, x.1 ∈ users)
    (href : Refines c d sp) (u : Bytes) (hmem : u ∈ users) (hpub : sp.table.get u ≠ [])
    (cut : Nat) (htomb : d.tombstone u cut = .ok d')
    (p : HistoryParams) (hp : ∀ n, p = .mostRecent n → 1 ≤ n) :
    ∃ π, d'.keyHistory c u p = .ok (π, sp.epoch, Spec.rootHash c d.commitmentKey d.vrf sp) ∧
      Verify.history c d.vrf (Spec.rootHash c d.commitmentKey d.vrf sp) sp.epoch u π p true
        = .ok ((C07.expected (sp.table.get u) p).map fun v => C07.resultOf (tombVer cut v)) := by
  have _ := And.intro hce hu  -- (not used by the proof, as in `C03.history_complete`)
  obtain ⟨π, hgen, hacc, _⟩ := Tomb.tombstone_history c hc hfresh d d' sp users N hv ht hN href u hmem hpub cut htomb p hp
  exact ⟨π, hgen, hacc true (.inl rfl)⟩

/-- **strict mode, untouched range**: when no entry of the requested range is tombstoned the strict verifier
accepts with the full answer -/
theorem tombstone_history_default_ok (c : Cfg) (hc : c.Lawful) (hce : c.emptyLabel.len = 0) (hfresh : C05.EmptyLabelFresh c)
    (d d' : Dir) (sp : Spec.State) (users : List Bytes) (N : Nat)
    (hv : C06.VrfOK d.vrf) (ht : VrfTotal d.vrf users N) (hN : sp.epoch + 1 ≤ N)
    (hu : ∀ x ∈ sp.table, x.1 ∈ users)
    (href : Refines c d sp) (u : Bytes) (hmem : u ∈ users) (hpub : sp.table.get u ≠ [])
    (cut : Nat) (htomb : d.tombstone u cut = .ok d')
    (p : HistoryParams) (hp : ∀ n, p = .mostRecent n → 1 ≤ n)
    (hnone : ∀ v ∈ C07.expected (sp.table.get u) p, Spec.tombstoned (some cut) v = false) :
    ∃ π, d'.keyHistory c u p = .ok (π, sp.epoch, Spec.rootHash c d.commitmentKey d.vrf sp) ∧
      Verify.history c d.vrf (Spec.rootHash c d.commitmentKey d.vrf sp) sp.epoch u π p false
        = .ok ((C07.expected (sp.table.get u) p).map C07.resultOf) := by
  have _ := And.intro hce hu  -- (not used by the proof, as in `C03.history_complete`)
  obtain ⟨π, hgen, hacc, _⟩ := Tomb.tombstone_history c hc hfresh d d' sp users N hv ht hN href u hmem hpub cut htomb p hp
  refine ⟨π, hgen, (hacc false (.inr hnone)).trans ?_⟩
  rw [List.map_congr_left (fun v hv => by rw [Tomb.tombVer_of_not_tombstoned (hnone v hv)])]

/-- **strict mode, tombstoned range**: when the requested range contains a tombstoned entry the strict verifier
rejects the proof the directory returns -/
theorem tombstone_history_default_rejects (c : Cfg) (hc : c.Lawful) (hce : c.emptyLabel.len = 0) (hfresh : C05.EmptyLabelFresh c)
    (d d' : Dir) (sp : Spec.State) (users : List Bytes) (N : Nat)
    (hv : C06.VrfOK d.vrf) (ht : VrfTotal d.vrf users N) (hN : sp.epoch + 1 ≤ N)
    (hu : ∀ x ∈ sp.table, x.1 ∈ users)
    (href : Refines c d sp) (u : Bytes) (hmem : u ∈ users) (hpub : sp.table.get u ≠ [])
    (cut : Nat) (htomb : d.tombstone u cut = .ok d')
    (p : HistoryParams) (hp : ∀ n, p = .mostRecent n → 1 ≤ n)
    (hsome : ∃ v ∈ C07.expected (sp.table.get u) p, Spec.tombstoned (some cut) v = true) :
    ∃ π, d'.keyHistory c u p = .ok (π, sp.epoch, Spec.rootHash c d.commitmentKey d.vrf sp) ∧
      ∃ e, Verify.history c d.vrf (Spec.rootHash c d.commitmentKey d.vrf sp) sp.epoch u π p false = .error e := by
  have _ := And.intro hce hu  -- (not used by the proof, as in `C03.history_complete`)
  obtain ⟨π, hgen, _, hrej⟩ := Tomb.tombstone_history c hc hfresh d d' sp users N hv ht hN href u hmem hpub cut htomb p hp
  exact ⟨π, hgen, hrej hsome⟩

/-- the history of every OTHER label is the identical answer -/
theorem tombstone_other_history (c : Cfg) (d d' : Dir) (u u' : Bytes) (cut : Nat)
    (htomb : d.tombstone u cut = .ok d') (hne : u' ≠ u) (p : HistoryParams) :
    d'.keyHistory c u' p = d.keyHistory c u' p := by
  rw [Tomb.tombstone_ok htomb]
  exact Tomb.keyHistory_states_congr c d _ u' p (Tomb.filter_other_map_tf u u' cut hne d.states)

/-- tombstoning the same label twice is tombstoning once up to the larger cut (so the three `tombstone_history_*`
theorems cover any sequence of tombstone calls on a label) -/
theorem tombstone_twice (d d1 d2 : Dir) (u : Bytes) (c1 c2 : Nat)
    (h1 : d.tombstone u c1 = .ok d1) (h2 : d1.tombstone u c2 = .ok d2) :
    d.tombstone u (max c1 c2) = .ok d2 := by
  have hne := Tomb.tombstone_nonempty h1
  have e1 := Tomb.tombstone_ok h1
  have e2 := Tomb.tombstone_ok h2
  rw [Tomb.tombstone_eq, hne]
  subst e1
  subst e2
  simp only [Bool.false_eq_true, if_false, List.map_map]
  congr 2
  apply List.map_congr_left
  intro s _
  exact (Tomb.tf_tf u c1 c2 s).symm

end Akd.C20
