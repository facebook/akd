/-
C13, last clause — "once change polling has signalled a new epoch, later requests on that instance are
answered from an epoch at least that new".

Model: `AkdModel/Poll.lean` (poller, requests, publishes by another instance, every interleaving).
The clause holds when every request is guarded by the cache lock; it FAILS for an unguarded request
(`unguarded_witness`: the schedule the storage-call scheduler found on the pinned code, defect D12:
`get_epoch_hash` did not take the lock; repaired in /repo).
-/
import AkdModel.Poll
import AkdModel.Lemmas.PollLemmas
namespace Akd.Poll

/-- **the clause**: in every reachable state of an instance all of whose requests are guarded, every answer
is from an epoch at least as new as the newest epoch signalled before the request started -/
theorem answers_after_signal (e : Nat) (guards : List Bool) (hg : ∀ g ∈ guards, g = true)
    (sched : List Act) (s : Sys) (hrun : run (init e guards) sched = some s) :
    ∀ a ∈ s.answers, a.1 ≤ a.2 :=
  (inv_reachable e guards hg sched s hrun).ans

/-- what is signalled has been published, and the cached epoch record is never older than what was signalled
(outside the poller's critical section) -/
theorem signalled_is_served (e : Nat) (guards : List Bool) (hg : ∀ g ∈ guards, g = true)
    (sched : List Act) (s : Sys) (hrun : run (init e guards) sched = some s) :
    s.sig ≤ s.db ∧ (s.wlock = false → ∀ v, s.cache = some v → s.sig ≤ v ∧ v ≤ s.db) :=
  have h := inv_reachable e guards hg sched s hrun
  ⟨h.sig_le_db, h.cache_fresh⟩

/-- no request is under way while the poller flushes and re-fetches -/
theorem flush_excludes_requests (e : Nat) (guards : List Bool) (hg : ∀ g ∈ guards, g = true)
    (sched : List Act) (s : Sys) (hrun : run (init e guards) sched = some s) (hw : s.wlock = true) :
    ∀ r ∈ s.rs, r.pc = .idle :=
  (inv_reachable e guards hg sched s hrun).excl hw

/-- answers never go back behind the epoch the instance started from -/
theorem answers_not_before_start (e : Nat) (guards : List Bool) (hg : ∀ g ∈ guards, g = true)
    (sched : List Act) (s : Sys) (hrun : run (init e guards) sched = some s) :
    ∀ a ∈ s.answers, e ≤ a.2 :=
  (inv_reachable e guards hg sched s hrun).ans_ge_start

/-- defect D12 (pinned code): with ONE unguarded request slot the clause fails — the epoch record read before
the second publish is cached between the poller's flush and its re-fetch; the poller signals epoch 4 and the next
request is answered from epoch 3 -/
theorem unguarded_witness :
    ∃ sched s, run (init 2 [false]) sched = some s ∧ (4, 3) ∈ s.answers := by
  refine ⟨[.publish, .poller, .poller, .poller, .poller, .reader 0, .reader 0, .poller, .poller,
           .publish, .poller, .poller, .poller, .reader 0, .poller, .reader 0, .reader 0, .reader 0], _, rfl, ?_⟩
  decide

/-- the same schedule is not executable when the slot is guarded (the request waits for the poller) -/
theorem unguarded_witness_blocked :
    run (init 2 [true]) [.publish, .poller, .poller, .poller, .poller, .reader 0] = none := by
  rfl

/-- non-vacuity: a guarded instance on which publishes, a detection that has to wait for a request, a flush, a
re-fetch and answers before and after the signal all occur (a guarded request never finds the epoch record vacant:
it is vacant only inside the poller's critical section) -/
example : ∃ s, run (init 2 [true, true])
    [.reader 0, .publish, .poller, .reader 0, .poller, .poller, .poller, .poller, .poller, .reader 1, .reader 1,
     .publish, .reader 0, .reader 0] = some s ∧ s.answers = [(0, 2), (3, 3), (3, 3)] ∧ s.sig = 3 := by
  exact ⟨_, rfl, rfl, rfl⟩

/-- the poller cannot take the lock while a guarded request is under way -/
example : run (init 2 [true]) [.reader 0, .publish, .poller, .poller] = none := by rfl

end Akd.Poll
