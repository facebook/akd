/-
C13, request level — "served by an instance whose view has fallen behind storage by any number of epochs — returns
either an error or an (epoch, root hash) pair the directory really published together with a proof that verifies
against that pair".

A lagging instance reads the CURRENT node store as of ITS OWN epoch `e`.  What it sees under each key is what the
store held at epoch `e`, or "not found" (`Thm/C13.lean`, record level: `snapshot_read`).  `ViewLe` states that for
two stores; `reads_le` lifts it to the requests: every proof generator either returns exactly what it returned at
epoch `e`, or fails.  This needs the child read of the proof generators to FAIL when a named child cannot be read
(`getChildForProof`, fix D13): with the pinned rule (`getChild`: "not found" = "no child") a lagging instance returns
proofs that do not verify — `legacy_lag_witness`, the defect the partially-warm lagging readers of the correspondence
run found on the real code.
-/
import AkdModel.Lemmas.LagRequests
namespace Akd.C13
open Akd C01 C11

/-- **the generators on a lagging view**: the same answer as at epoch `e`, or an error — never another answer -/
theorem reads_le (c : Cfg) (s s' : NodeStore) (a : Azks) (hle : ViewLe s s' a.latestEpoch) :
    (s'.rootHash c a = s.rootHash c a ∨ ∃ x, s'.rootHash c a = .error x) ∧
    (∀ l, s'.membershipProof c a l = s.membershipProof c a l ∨ ∃ x, s'.membershipProof c a l = .error x) ∧
    (∀ l, s'.nonMembershipProof c a l = s.nonMembershipProof c a l ∨ ∃ x, s'.nonMembershipProof c a l = .error x) := by
  exact ⟨(Lag.rootHash_le c a hle).leR, fun l => (Lag.membershipProof_le c a hle l).leR,
    fun l => (Lag.nonMembershipProof_le c a hle l).leR⟩

theorem audit_le (c : Cfg) (s s' : NodeStore) (a : Azks) (hle : ViewLe s s' a.latestEpoch) (s0 e0 : Nat) :
    s'.appendOnlyProof c a s0 e0 = s.appendOnlyProof c a s0 e0 ∨ ∃ x, s'.appendOnlyProof c a s0 e0 = .error x := by
  exact (Lag.appendOnlyProof_le c a hle s0 e0).leR

/-- **one publish later**: after a complete commit of a further epoch, the store shows as of ANY earlier epoch `e` what
it showed before, or nothing -/
theorem viewLe_publish (c : Cfg) (hc : c.emptyLabel.len = 0)
    (s : NodeStore) (a : Azks) (t : CRoot)
    (hidle : s.inTxn = false ∧ s.log = [])
    (hrep : ReprRoot c .directory s t) (hwf : t.WF)
    (hat : AtEpoch s.db a.latestEpoch) (hkeyed : WellKeyed s.db)
    (hdom : ∀ k, (s.db.get? k).isSome → k ∈ nodeKeys t)
    (hep : ∀ lf ∈ t.leaves, 1 ≤ lf.ep ∧ lf.ep ≤ a.latestEpoch)
    (els : List (BitStr × Dig))
    (hpf : PrefixFree (t.leaves ++ newLeaves els (a.latestEpoch + 1)))
    (hlen : ∀ lf ∈ t.leaves ++ newLeaves els (a.latestEpoch + 1), 1 ≤ lf.lbl.length ∧ lf.lbl.length ≤ 256)
    (s' : NodeStore) (a' : Azks)
    (hins : s.begin.batchInsert c .directory a (els.map fun x => (NodeLabel.ofBits x.1, x.2)) = .ok (s', a'))
    (e : Nat) (he : e ≤ a.latestEpoch) :
    ViewLe s s'.commit e := by
  have hlog := Pub.logOK_batchInsert hins (Pub.logOK_begin s hidle.2)
  have hM := Part.mixed_commit hlog
  rw [(Part.keeps_db s.db hins ⟨rfl, rfl⟩).1] at hM
  exact fun k => (Part.mixed_view c hc s a t hidle hrep hwf hat hkeyed hdom hep els hpf hlen s' a' hins _ hM e he k).imp
    id And.right

/-- **request level**: an instance that still holds the epoch record of `d` (epoch `e`) while the node store and the
value states have moved on (`ViewLe`; every added state is of a later epoch) answers the epoch hash and every lookup,
key-history and audit request exactly as `d` did, or with an error -/
theorem lagging_requests (c : Cfg) (d dlag : Dir) (a : Azks)
    (hazks : d.azks = some a) (hazks' : dlag.azks = some a)
    (hvrf : dlag.vrf = d.vrf) (hkey : dlag.commitmentKey = d.commitmentKey)
    (hle : ViewLe d.nodes dlag.nodes a.latestEpoch)
    (hstates : ∀ x ∈ d.states, x.epoch ≤ a.latestEpoch)
    (extra : List ValueState) (hextra : ∀ x ∈ extra, a.latestEpoch < x.epoch)
    (hst : dlag.states = d.states ++ extra) :
    (dlag.epochHash c = d.epochHash c ∨ ∃ x, dlag.epochHash c = .error x) ∧
    (∀ u, dlag.lookup c u = d.lookup c u ∨ ∃ x, dlag.lookup c u = .error x) ∧
    (∀ u p, dlag.keyHistory c u p = d.keyHistory c u p ∨ ∃ x, dlag.keyHistory c u p = .error x) ∧
    (∀ s0 e0, dlag.audit c s0 e0 = d.audit c s0 e0 ∨ ∃ x, dlag.audit c s0 e0 = .error x) := by
  have _ := hstates  -- not needed: the states of `d` are never compared with the epoch
  obtain ⟨nodes, azks, states, vrf, ck⟩ := d
  obtain ⟨ns, azks', states', vrf', ck'⟩ := dlag
  simp only at hazks hazks' hvrf hkey hst hle
  subst hazks hazks' hvrf hkey hst
  exact Lag.requests_le c nodes ns a states extra vrf' ck' hle hextra

/-- defect D13 (pinned code): with the child read of `get_child_node` ("not found" = "no child") in the proof
generators, a lagging view does NOT give "the same or an error": here the membership walk for the label `1…` stops at
the root because the right child cannot be read as of epoch 1, and returns a proof for the ROOT's label -/
theorem legacy_lag_witness :
    ∃ (c : Cfg) (s s' : NodeStore) (e : Nat) (root child : TreeNode),
      ViewLe s s' e ∧
      s.getNode NodeLabel.root e = .ok root ∧ root.right = some child.label ∧
      s.getNode child.label e = .ok child ∧ s'.getNode child.label e = .error .notFound ∧
      s'.getChild root .right e = .ok none ∧            -- pinned rule: an absent child
      s'.getChildForProof root .right e = .error .notFound := by   -- repaired rule: an error
  exact ⟨Cfg.whatsappV1, Lag.exS .root Lag.exCl, Lag.exS' .root Lag.exCl, 1, Lag.exRoot .root Lag.exCl,
    Lag.exCh .root Lag.exCl 1, Lag.ex_viewLe Lag.exCl_ne, Lag.ex_root _ _, rfl, Lag.ex_child Lag.exCl_ne,
    Lag.ex_child' Lag.exCl_ne, Lag.ex_getChild Lag.exCl_ne, Lag.ex_getChildForProof Lag.exCl_ne⟩

end Akd.C13
