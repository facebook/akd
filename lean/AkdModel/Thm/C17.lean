/-
C17 — node-label operations agree with their bit-string meaning.

The lemmas are in `Lemmas/`: `LabelBytes` (bytes against bits), `LabelLex` (bit-string order, common
prefixes, `cmp`/`lcp`/`prefixOrdering`), `LabelSearch` (sorting and binary search), `LabelSets`
(what the `AzksElementSet` operations use of them).
-/
import AkdModel.Lemmas.LabelSets
namespace Akd.C17
open Akd NodeLabel

/-- prefix test = prefix of bit strings, for every pair of labels of length ≤ 256
(no assumption on the bits beyond the length, no assumption on byte alignment). -/
theorem isPrefixOf_iff (a b : NodeLabel) (ha : a.len ≤ 256) (hb : b.len ≤ 256) :
    a.isPrefixOf b = true ↔ a.bits <+: b.bits := by
  exact (isPrefixOf_iff' a b hb).trans (bits_prefix_iff a b ha hb).symm

/-- prefix extraction: the first `n` bits are kept, everything beyond is cleared. -/
theorem getPrefix_spec (a : NodeLabel) (n : Nat) (hn : n < 256) :
    (a.getPrefix n).len = n ∧
    (a.getPrefix n).bits256 = a.bits256.take n ++ List.replicate (256 - n) false := by
  exact ⟨getPrefix_len a n hn, bits256_getPrefix a n hn⟩

theorem getPrefix_ge (a : NodeLabel) (n : Nat) (hn : 256 ≤ n) : a.getPrefix n = a :=
  getPrefix_of_ge a n hn

theorem bits_getPrefix (a : NodeLabel) (n : Nat) (hn : n ≤ a.len) (ha : a.len ≤ 256) :
    (a.getPrefix n).bits = a.bits.take n := by
  exact bits_getPrefix_le a n hn ha

/-- longest common prefix = longest common prefix of the bit strings, and the result is normalised
(unless it is a full 256-bit operand returned as is). -/
theorem lcp_spec (e a b : NodeLabel) (hae : a ≠ e) (hbe : b ≠ e)
    (ha : a.len ≤ 256) (hb : b.len ≤ 256) :
    (lcp e a b).bits = BitStr.commonPrefix a.bits b.bits ∧
    (lcp e a b).len = (BitStr.commonPrefix a.bits b.bits).length ∧
    ((lcp e a b).len < 256 → (lcp e a b).Normalised) := by
  exact lcp_spec' e a b hae hbe ha hb

theorem lcp_empty (e a b : NodeLabel) (h : a = e ∨ b = e) : lcp e a b = e := by
  unfold lcp
  rcases h with h | h <;> simp [h]

/-- child direction: `WithZero`/`WithOne` iff the label followed by that bit is a prefix. -/
theorem prefixOrdering_spec (a b : NodeLabel) (ha : a.len ≤ 256) (hb : b.len ≤ 256) :
    (a.prefixOrdering b = .withZero ↔ (a.bits ++ [false]) <+: b.bits) ∧
    (a.prefixOrdering b = .withOne ↔ (a.bits ++ [true]) <+: b.bits) := by
  exact ⟨(prefixOrdering_iff a b hb false).trans (snoc_prefix_bits_iff a b ha hb false).symm,
    (prefixOrdering_iff a b hb true).trans (snoc_prefix_bits_iff a b ha hb true).symm⟩

/-- ordering: by length, then lexicographically on all 256 bits. -/
theorem cmp_spec (a b : NodeLabel) :
    NodeLabel.cmp a b = (compare a.len b.len).then (BitStr.lex a.bits256 b.bits256) := by
  exact cmp_eq a b

/-- round trip between bit strings and normalised labels -/
theorem bits_ofBits (bs : BitStr) (h : bs.length ≤ 256) : (ofBits bs).bits = bs := by
  rw [bits, bits256_ofBits bs h]
  simp [ofBits]

theorem ofBits_normalised (bs : BitStr) (h : bs.length ≤ 256) : (ofBits bs).Normalised := by
  unfold Normalised
  rw [bits_ofBits bs h, bits256_ofBits bs h]
  simp [ofBits]

/-- normalised labels of length ≤ 256 are determined by their bit string -/
theorem ofBits_bits (l : NodeLabel) (h : l.len ≤ 256) (hn : l.Normalised) : ofBits l.bits = l := by
  have hlen : l.bits.length = l.len := by rw [bits_length]; omega
  have h1 : (ofBits l.bits).val = l.val := by
    apply val_eq_of_bits256
    rw [bits256_ofBits _ (by omega), hlen]
    exact hn.symm
  have h2 : (ofBits l.bits).len = l.len := hlen
  cases l
  simp_all [ofBits]

/-! ### label sets: binary-search implementations = linear ones -/

/-- the hypotheses under which the code uses the sorted representation -/
structure SortedSameLen {α} (xs : List (NodeLabel × α)) (L : Nat) : Prop where
  sameLen : ∀ x ∈ xs, x.1.len = L
  le256 : L ≤ 256
  sorted : xs.Pairwise (fun x y => NodeLabel.cmp x.1 y.1 ≠ .gt)

-- (`hpl` is not needed by the proof: it follows from `hp` whenever `xs` is non-empty)
set_option linter.unusedVariables false in
theorem partition_sorted_eq_linear {α} (xs : List (NodeLabel × α)) (L : Nat) (p : NodeLabel)
    (h : SortedSameLen xs L) (hp : ∀ x ∈ xs, p.isPrefixOf x.1 = true) (hpl : p.len ≤ 256) :
    ((ElementSet.binarySearchable xs).partition p).1.elems
        = ((ElementSet.unsorted xs).partition p).1.elems ∧
    ((ElementSet.binarySearchable xs).partition p).2.elems
        = ((ElementSet.unsorted xs).partition p).2.elems := by
  obtain ⟨hlen, hL, hsorted⟩ := h
  -- `p` is shorter than the labels and the next bit decides, or it is not and all are invalid
  have hord : ∀ x ∈ xs, p.prefixOrdering x.1 =
      if p.len < L then (if bitB x.1.val p.len then .withOne else .withZero) else .invalid := by
    intro x hx
    have := hlen x hx
    split
    · exact NodeLabel.prefixOrdering_of_prefix p x.1 (by omega) (by omega) (hp x hx)
    · exact NodeLabel.prefixOrdering_invalid p x.1 (by omega)
  have hmono : xs.Pairwise (fun x y => NodeLabel.partPred p y.1 = true → NodeLabel.partPred p x.1 = true) := by
    refine hsorted.imp_of_mem fun {x y} hx hy hxy hqy => ?_
    have := hlen x hx
    have := hlen y hy
    rw [NodeLabel.partPred, hord x hx]
    rw [NodeLabel.partPred, hord y hy] at hqy
    by_cases hlt : p.len < L
    · rw [if_pos hlt] at hqy ⊢
      have hby : bitB y.1.val p.len = false := by
        cases hb : bitB y.1.val p.len
        · rfl
        · simp [hb] at hqy
      rw [NodeLabel.next_bit_mono p x.1 y.1 (by omega) (by omega) (by omega) (hp x hx) (hp y hy) hxy hby]
      rfl
    · rw [if_neg hlt]
  obtain ⟨htake, hdrop⟩ := partitionPoint_spec (fun c : NodeLabel × α => NodeLabel.partPred p c.1) xs hmono
  show ElementSet.popInvalid p (xs.take (partitionPoint
        (fun c : NodeLabel × α => NodeLabel.partPred p c.1) xs.toArray))
      = xs.filter (fun x => p.prefixOrdering x.1 == .withZero) ∧
    xs.drop (partitionPoint (fun c : NodeLabel × α => NodeLabel.partPred p c.1) xs.toArray)
      = xs.filter (fun x => p.prefixOrdering x.1 == .withOne)
  rw [htake, hdrop, popInvalid_eq_filter, List.filter_filter]
  · constructor <;> refine List.filter_congr fun x _ => ?_ <;>
      simp only [NodeLabel.partPred] <;> cases p.prefixOrdering x.1 <;> rfl
  · by_cases hlt : p.len < L
    · exact Or.inl fun x hx => by
        rw [hord x (List.mem_filter.1 hx).1, if_pos hlt]; split <;> simp
    · exact Or.inr fun x hx => by rw [hord x (List.mem_filter.1 hx).1, if_neg hlt]

set_option linter.unusedVariables false in
/-- The hypothesis `he0` is needed.  Without it the statement is false: the
linear fold short-circuits to `e` as soon as an intermediate common prefix happens to *be* `e`,
which is only harmless when `e` stands for the empty bit string (as `empty_label()` does in every
configuration, `label_len = 0`) or cannot be produced at all (`L < e.len`).  See
`setLcp_counterexample` below.  (`hL` is not needed by the proof.) -/
theorem setLcp_sorted_eq_linear {α} (e : NodeLabel) (xs : List (NodeLabel × α)) (L : Nat)
    (h : SortedSameLen xs L) (he : ∀ x ∈ xs, x.1 ≠ e) (hne : xs ≠ []) (hL : 0 < L)
    (he0 : e.len = 0 ∨ L < e.len) :
    ((ElementSet.binarySearchable xs).setLcp e).bits
        = ((ElementSet.unsorted xs).setLcp e).bits := by
  obtain ⟨hlen, hL256, hsorted⟩ := h
  cases xs with
  | nil => exact absurd rfl hne
  | cons x rest =>
    obtain ⟨l, hl⟩ := Option.isSome_iff_exists.1 (List.getLast?_isSome.2 (List.cons_ne_nil x rest))
    have hlmem : l ∈ x :: rest := List.mem_of_getLast? hl
    have hxl := hlen x (by simp)
    have hll := hlen l hlmem
    simp only [ElementSet.setLcp, List.head?_cons, hl]
    rw [foldl_lcp_bits e L hL256 he0 rest (fun y hy => ⟨hlen y (by simp [hy]), he y (by simp [hy])⟩) x.1
      (by omega),
      (NodeLabel.lcp_spec' e x.1 l.1 (he x (by simp)) (he l hlmem) (by omega) (by omega)).1]
    -- both sides have the same prefixes: a prefix of the first and the last label is one of all
    apply BitStr.eq_of_prefix_iff
    intro z
    rw [BitStr.prefix_commonPrefix_iff, prefix_foldl_commonPrefix_iff (fun n : NodeLabel × α => n.1.bits)]
    refine and_congr_right fun hzx => ⟨fun hzl n hn => ?_, fun hall => ?_⟩
    · obtain ⟨ys, hys⟩ := List.getLast?_eq_some_iff.1 hl
      have hnmem : n ∈ ys ++ [l] := hys ▸ List.mem_cons_of_mem x hn
      rcases List.mem_append.1 hnmem with h | h
      · have h2 := (List.pairwise_append.1 (hys ▸ hsorted)).2.2 n h l (by simp)
        have h1 := List.rel_of_pairwise_cons hsorted hn
        have hnl := hlen n (by simp [hn])
        exact NodeLabel.prefix_sandwich z x.1 n.1 l.1 (by omega) (by omega) (by omega) h1 h2 hzx hzl
      · rw [List.mem_singleton.1 h]; exact hzl
    · rcases List.mem_cons.mp hlmem with h | h
      · rw [h]; exact hzx
      · exact hall l h

/-- Counterexample to `setLcp_sorted_eq_linear` without `he0`: `e = (00…0, len 3)`, and the sorted
8-bit labels `00000000`, `00010000`, `10000000`.  All other hypotheses hold, the sorted
representation answers `[]`, the linear one `[false, false, false]`. -/
theorem setLcp_counterexample :
    let lbl (b : UInt8) (n : Nat) : NodeLabel := ⟨(Vector.replicate 32 0).set 0 b, n⟩
    let e := lbl 0 3
    let xs : List (NodeLabel × Unit) := [(lbl 0x00 8, ()), (lbl 0x10 8, ()), (lbl 0x80 8, ())]
    SortedSameLen xs 8 ∧ (∀ x ∈ xs, x.1 ≠ e) ∧ xs ≠ [] ∧
      ((ElementSet.binarySearchable xs).setLcp e).bits = [] ∧
      ((ElementSet.unsorted xs).setLcp e).bits = [false, false, false] := by
  -- the three labels differ from `e` already in length
  have hne : ∀ (e : NodeLabel) (xs : List (NodeLabel × Unit)) (n : Nat), (∀ x ∈ xs, x.1.len = n) → e.len ≠ n →
      ∀ x ∈ xs, x.1 ≠ e := fun e xs n h he x hx hxe => he (hxe ▸ h x hx)
  refine ⟨⟨by decide +kernel, by decide, by decide +kernel⟩, hne _ _ 8 (by decide +kernel) (by decide), by decide,
    by decide +kernel, by decide +kernel⟩

-- (`hn` is not needed by the proof: when `p` is not a prefix of `c` the byte comparison is
-- already decided within the first `p.len` bits, so the bits of `p` beyond `p.len` are never looked at)
set_option linter.unusedVariables false in
theorem containsPrefix_sorted_eq_linear {α} (xs : List (NodeLabel × α)) (L : Nat) (p : NodeLabel)
    (h : SortedSameLen xs L) (hp : p.len ≤ L) (hn : p.Normalised) :
    (ElementSet.binarySearchable xs).containsPrefix p
        = (ElementSet.unsorted xs).containsPrefix p := by
  obtain ⟨hlen, hL, hsorted⟩ := h
  have hpl : p.bits.length = p.len := by rw [NodeLabel.bits_length]; omega
  have hcmp : ∀ x ∈ xs, (if p.len == 0 || p.isPrefixOf x.1 then Ordering.eq
      else NodeLabel.cmpBytes x.1.val.toList p.val.toList)
        = BitStr.lex (x.1.bits256.take p.len) p.bits := fun x hx =>
    NodeLabel.containsCmp_eq p x.1 (by rw [hlen x hx]; exact hp) (by rw [hlen x hx]; exact hL)
  have hl : ∀ x : NodeLabel × α, (x.1.bits256.take p.len).length = p.bits.length := fun x => by
    simp [NodeLabel.bits256_length, hpl]; omega
  unfold ElementSet.containsPrefix
  simp only
  rw [binarySearchBy_found]
  · rw [Bool.eq_iff_iff, List.any_eq_true, List.any_eq_true]
    refine exists_congr fun x => and_congr_right fun hx => ?_
    rw [hcmp x hx, beq_iff_eq, BitStr.lex_eq_iff _ _ (hl x),
      NodeLabel.isPrefixOf_iff_take p x.1 (by rw [hlen x hx]; exact hp) (by rw [hlen x hx]; exact hL)]
  · refine hsorted.imp_of_mem fun {x y} hx hy hxy => ?_
    rw [hcmp x hx, hcmp y hy, BitStr.lex_eq_compare _ _ (hl x), BitStr.lex_eq_compare _ _ (hl y)]
    exact NodeLabel.rk_compare_mono _ _ _
      (NodeLabel.toNat_take_mono x.1 y.1 p.len ((hlen x hx).trans (hlen y hy).symm) hxy)

/-- sorting does what the sorted representation assumes -/
theorem sortByLabel_sorted {α} (xs : List (NodeLabel × α)) :
    (sortByLabel xs).Pairwise (fun x y => NodeLabel.cmp x.1 y.1 ≠ .gt) ∧
    (sortByLabel xs).Perm xs := by
  induction xs with
  | nil => simp [sortByLabel]
  | cons x xs ih =>
    exact ⟨insertByLabel_sorted x _ ih.1, (insertByLabel_perm x _).trans (List.Perm.cons x ih.2)⟩

/-! ### non-vacuity -/
example : (ofBits [true, false, true]).len ≤ 256 := by decide

end Akd.C17
