/-
C16 — the object cache never changes what a read returns.
C15 — reads inside a storage transaction see pending writes exactly as after commit.
C10 — a publish that returns an error leaves the directory exactly as it was.
All three are theorems about the storage-manager state machine `Store.lean`
(`Store.fixed` = the code as repaired; `Store.legacy` = the pinned commit, for the witnesses).
-/
import AkdModel.Store
import AkdModel.PublishIO
import AkdModel.Lemmas.StoreLemmas
import AkdModel.Lemmas.StoreSelect
namespace Akd.Store

/-- keys are unique -/
def Map.WF (m : Map) : Prop := m.Pairwise (fun a b => a.key ≠ b.key)

/-- the cache only ever holds what the database holds -/
structure Inv (s : State) : Prop where
  dbWF : Map.WF s.db
  cacheWF : Map.WF s.cache
  logWF : Map.WF s.log
  cacheNoAzks : ∀ r ∈ s.cache, r.key ≠ .azks
  azksKey : ∀ r, s.cacheAzks = some r → r.key = .azks
  coherent : ∀ r ∈ s.cache, s.db.get? r.key = some r
  coherentAzks : ∀ r, s.cacheAzks = some r → s.db.get? .azks = some r
  noCache : s.hasCache = false → s.cache = [] ∧ s.cacheAzks = none
  idle : s.active = false → s.log = []

/-- what a read of `k` must return: the pending value inside a transaction, else the database's -/
def truth (s : State) (k : Key) : Option Rec :=
  match (if s.active then s.log.get? k else none) with
  | some r => some r
  | none => s.db.get? k

/-! ## C16 -/

theorem Inv.frame {s : State} (h : Inv s) (l : Map) (a c : Bool) (hl : Map.WF l)
    (hi : a = false → l = []) : Inv { s with log := l, active := a, canClean := c } :=
  { h with logWF := hl, idle := hi }

theorem Inv.ofEmptyCache {s : State} (hd : Map.WF s.db) (hl : Map.WF s.log) (hc : s.cache = [])
    (hz : s.cacheAzks = none) (hi : s.active = false → s.log = []) : Inv s :=
  { dbWF := hd, cacheWF := hc ▸ List.Pairwise.nil, logWF := hl
    cacheNoAzks := by rw [hc]; nofun
    azksKey := by rw [hz]; nofun
    coherent := by rw [hc]; nofun
    coherentAzks := by rw [hz]; nofun
    noCache := fun _ => ⟨hc, hz⟩
    idle := hi }

/-- The write path of the repaired code: database first, then the cache.  The state in between is
not coherent (the cache may still hold the old record under `r.key`), so the two writes are taken
together. -/
theorem Inv.setPut {s : State} (h : Inv s) (r : Rec) :
    Inv (({ s with db := s.db.set r }).cachePut r) := by
  have hdb := Map.KU_set h.dbWF r
  unfold State.cachePut
  split
  · rename_i hc
    obtain ⟨h1, h2⟩ := h.noCache (by simpa using hc)
    exact Inv.ofEmptyCache hdb h.logWF h1 h2 h.idle
  · rename_i hc
    have hno : ∀ {p : Prop}, s.hasCache = false → p := fun e => absurd e (by simpa using hc)
    split
    · rename_i hk
      exact { h with
        dbWF := hdb
        azksKey := fun _ e => Option.some.inj e ▸ hk
        coherent := fun r' hr' =>
          (Map.get?_set_other _ _ fun e => h.cacheNoAzks r' hr' (e.symm.trans hk)).trans
            (h.coherent r' hr')
        coherentAzks := fun _ e => Option.some.inj e ▸ hk ▸ Map.get?_set_same s.db r
        noCache := hno }
    · rename_i hk
      refine { h with
        dbWF := hdb
        cacheWF := Map.KU_set h.cacheWF r
        cacheNoAzks := fun r' hr' => ?_
        coherent := fun r' hr' => ?_
        coherentAzks := fun r' e => (Map.get?_set_other _ _ hk).trans (h.coherentAzks r' e)
        noCache := hno }
      · rcases Map.mem_set hr' with rfl | hr'
        · exact hk
        · exact h.cacheNoAzks r' hr'
      · rcases (Map.mem_set_iff h.cacheWF).1 hr' with rfl | ⟨hm, hne⟩
        · exact Map.get?_set_same ..
        · exact (Map.get?_set_other _ _ (Ne.symm hne)).trans (h.coherent r' hm)

theorem Inv.cachePut {s : State} (h : Inv s) {r : Rec} (hr : s.db.get? r.key = some r) :
    Inv (s.cachePut r) := by
  have := h.setPut r
  rwa [Map.set_of_get? hr] at this

theorem Inv.cachePutAll {s : State} (h : Inv s) {rs : List Rec}
    (hr : ∀ r ∈ rs, s.db.get? r.key = some r) : Inv (s.cachePutAll rs) := by
  induction rs generalizing s with
  | nil => exact h
  | cons r rs ih =>
    have hr := List.forall_mem_cons.1 hr
    exact ih (h.cachePut hr.1) (by rw [State.cachePut_db]; exact hr.2)

theorem Inv.setAllPutAll {s : State} (h : Inv s) (rs : List Rec) :
    Inv (({ s with db := s.db.setAll rs }).cachePutAll rs) := by
  rw [State.setAll_putAll_fold]
  induction rs generalizing s with
  | nil => exact h
  | cons r rs ih => exact ih (h.setPut r)

theorem Inv.cleared {s : State} (h : Inv s) : Inv s.cleared :=
  h.frame [] false _ List.Pairwise.nil (fun _ => rfl)

theorem inv_batchSet (s : State) (rs : List Rec) (f : Bool) (h : Inv s) :
    Inv (s.batchSet fixed rs f).1 := by
  cases ha : s.active with
  | true =>
    rw [State.batchSet_active fixed s rs f ha]
    exact h.frame _ _ _ (Map.KU_setAll h.logWF rs) (by simp [ha])
  | false =>
    rw [State.batchSet_idle s rs f ha]
    cases f
    · exact h.setAllPutAll rs
    · exact h

/-- the invariant survives every operation: rejected writes, failing commits, evictions at any
time cleaning is enabled, flushes, transactions -/
theorem inv_step (s : State) (op : Op) (h : Inv s) : Inv (step fixed s op).1 := by
  have read : ∀ op : Op, op.isRead = true → Inv (step fixed s op).1 := by
    intro op hr
    obtain ⟨rs, e, hm⟩ := step_read fixed s op hr
    rw [e]
    exact h.cachePutAll fun r hr => Map.get?_of_mem h.dbWF (hm r hr)
  cases op with
  | set r f => exact inv_batchSet s [r] f h  -- `State.set_eq_batchSet`
  | batchSet rs f => exact inv_batchSet s rs f h
  | begin => exact h.frame _ _ _ h.logWF (by simp)
  | commit f =>
    show Inv (s.commit fixed f).1
    rcases State.commit_cases s f with ⟨_, e⟩ | ⟨o, e⟩ | ⟨n, e⟩ <;> rw [e]
    · exact h
    · exact h.cleared
    · exact h.cleared.setAllPutAll _
  | rollback =>
    show Inv s.rollback.1
    rw [State.rollback_eq]
    cases s.active
    · exact h
    · exact h.cleared
  | flush => exact Inv.ofEmptyCache h.dbWF h.logWF rfl rfl h.idle
  | evict ks =>
    show Inv (s.evict ks).1
    unfold State.evict
    split
    · have hs := Map.foldl_erase_sublist ks s.cache
      exact { h with
        cacheWF := h.cacheWF.sublist hs
        cacheNoAzks := fun r hr => h.cacheNoAzks r (hs.subset hr)
        coherent := fun r hr => h.coherent r (hs.subset hr)
        noCache := fun e => ⟨List.eq_nil_of_sublist_nil ((h.noCache e).1 ▸ hs), (h.noCache e).2⟩ }
    · exact h
  | tombstone u e f =>
    cases f with
    | true => exact h
    | false =>
      show Inv (s.tombstone fixed u e false).1
      rw [State.tombstone_eq]
      split
      · exact h
      · exact inv_batchSet _ _ _ h
  | _ => exact read _ rfl

theorem inv_run (s : State) (ops : List Op) (h : Inv s) : Inv (run fixed s ops) := by
  unfold run
  induction ops generalizing s with
  | nil => exact h
  | cons o ops ih => exact ih _ (inv_step s o h)

theorem inv_init (hasCache : Bool) : Inv { hasCache := hasCache } :=
  Inv.ofEmptyCache List.Pairwise.nil List.Pairwise.nil rfl rfl (fun _ => rfl)

theorem Inv.cacheHit {s : State} (h : Inv s) {k : Key} {r : Rec} (hr : s.cacheHit k = some r) :
    s.db.get? k = some r := by
  unfold State.cacheHit at hr
  split at hr
  · cases hr
  · split at hr
    · rename_i hk; subst hk; exact h.coherentAzks r hr
    · have := h.coherent r (Map.get?_some_mem hr)
      rwa [Map.get?_some_key hr] at this

theorem Inv.truth_eq {s : State} (h : Inv s) (k : Key) :
    truth s k = (match s.fromCacheOnly k with | some r => some r | none => s.db.get? k) := by
  unfold truth State.fromCacheOnly
  cases hl : (if s.active = true then s.log.get? k else none) with
  | some r => rfl
  | none =>
    cases hc : s.cacheHit k with
    | none => rfl
    | some r => exact h.cacheHit hc

theorem get_obs (s : State) (k : Key) :
    (s.get k false).2 = .one (match s.fromCacheOnly k with | some r => some r | none => s.db.get? k) := by
  unfold State.get
  cases hf : s.fromCacheOnly k with
  | some r => rfl
  | none =>
    simp only [Bool.false_eq_true, if_false]
    cases hd : s.db.get? k <;> rfl

/-- every single read returns the truth -/
theorem get_eq_truth (s : State) (k : Key) (h : Inv s) : (s.get k false).2 = .one (truth s k) := by
  rw [get_obs, h.truth_eq]

/-- every batched read returns the truth for each requested key that exists (as a set) -/
theorem batchGet_eq_truth (s : State) (ks : List Key) (h : Inv s) :
    ∃ rs, (s.batchGet ks false).2 = .recs rs ∧ ∀ r, r ∈ rs ↔ ∃ k ∈ ks, truth s k = some r := by
  have ht : ∀ k r, truth s k = some r ↔
      (s.fromCacheOnly k = some r ∨ (s.fromCacheOnly k = none ∧ s.db.get? k = some r)) := by
    intro k r
    rw [h.truth_eq]
    cases s.fromCacheOnly k <;> simp
  refine ⟨_, congrArg Prod.snd (State.batchGet_ok s ks), fun r => ?_⟩
  simp only [List.mem_append, List.mem_filterMap, List.mem_eraseDups, List.mem_filter, ht,
    Option.isNone_iff_eq_none]
  constructor
  · rintro (⟨k, hk, hr⟩ | ⟨k, ⟨hk, hn⟩, hr⟩)
    · exact ⟨k, hk, Or.inl hr⟩
    · exact ⟨k, hk, Or.inr ⟨hn, hr⟩⟩
  · rintro ⟨k, hk, hr | ⟨hn, hr⟩⟩
    · exact Or.inl ⟨k, hk, hr⟩
    · exact Or.inr ⟨k, ⟨hk, hn⟩, hr⟩

/-- after a flush the next read of the epoch record reflects storage -/
theorem flush_then_epoch (s : State) (h : Inv s) :
    ((s.flush).1.get .azks false).2 = .one (truth s .azks) := by
  have hf : Inv s.flush.1 := inv_step s .flush h
  rw [get_eq_truth _ _ hf]
  rfl

/-- the pinned commit breaks the invariant on a rejected write (defect D3) -/
theorem rejected_write_witness :
    ∃ s op, Inv s ∧ ¬ Inv (step legacy s op).1 ∧
      ((step legacy s op).1.get .azks false).2 ≠ .one (truth (step legacy s op).1 .azks) := by
  refine ⟨{ db := [⟨.azks, 0, 1⟩] }, .set ⟨.azks, 0, 2⟩ true,
    Inv.ofEmptyCache (List.pairwise_singleton ..) .nil rfl rfl (fun _ => rfl), ?_, ?_⟩
  · intro h
    have := h.coherentAzks ⟨.azks, 0, 2⟩ rfl
    revert this
    decide
  · decide

/-! ## C15 -/

/-- per user: versions strictly increase with epochs over the union of database and log, epochs ≥ 1 -/
def DataWF (s : State) : Prop :=
  ∀ a b, a ∈ s.db ++ s.log → b ∈ s.db ++ s.log →
    (match a.key, b.key with
     | .vs u e, .vs u' e' => u = u' → (1 ≤ e ∧ (e < e' → a.version < b.version) ∧ (e = e' → a.version = b.version))
     | _, _ => True)

/-- the state a successful commit produces -/
def committed (s : State) : State :=
  { s with db := s.db.setAll (State.commitOrder s.log), log := [], active := false,
           canClean := if s.hasCache then true else s.canClean,
           cache := (s.cachePutAll (State.commitOrder s.log)).cache,
           cacheAzks := (s.cachePutAll (State.commitOrder s.log)).cacheAzks }

theorem committed_eq (s : State) :
    committed s =
      ({ s.cleared with db := s.db.setAll (State.commitOrder s.log) }).cachePutAll
        (State.commitOrder s.log) := by
  have := State.cachePutAll_frame s (s.db.setAll (State.commitOrder s.log)) [] false
    (if s.hasCache then true else s.canClean) (State.commitOrder s.log)
  rw [State.cleared, this]
  apply State.ext <;> simp [committed]

theorem inv_committed {s : State} (h : Inv s) : Inv (committed s) := by
  rw [committed_eq]
  exact h.cleared.setAllPutAll _

@[simp] theorem committed_db (s : State) :
    (committed s).db = s.db.setAll (State.commitOrder s.log) := rfl
@[simp] theorem committed_active (s : State) : (committed s).active = false := rfl
@[simp] theorem committed_log (s : State) : (committed s).log = [] := rfl

theorem truth_committed {s : State} (h : Inv s) (ha : s.active = true) (k : Key) :
    truth (committed s) k = truth s k := by
  unfold truth
  simp only [committed_active, Bool.false_eq_true, if_false, committed_db, ha, if_true]
  rw [Map.get?_setAll _ (State.KU_commitOrder h.logWF), State.get?_commitOrder h.logWF]
  cases s.log.get? k <;> rfl

/-- `commit` hands the database exactly the pending records, the epoch record last -/
theorem commit_exact (s : State) (h : Inv s) (ha : s.active = true)
    (hz : ∃ r ∈ s.log, r.key = .azks) :
    (s.commit fixed false).1 = committed s ∧
    (State.commitOrder s.log).Perm s.log ∧ (∃ r, (State.commitOrder s.log).getLast? = some r ∧ r.key = .azks) := by
  have _ := h
  refine ⟨?_, State.commitOrder_perm _, State.commitOrder_getLast hz⟩
  obtain ⟨r, hr, hk⟩ := State.commitOrder_getLast hz
  have hne : (State.commitOrder s.log).isEmpty = false := by
    cases hl : State.commitOrder s.log with
    | nil => rw [hl] at hr; cases hr
    | cons x xs => rfl
  rw [committed_eq]
  unfold State.commit
  simp only [ha, hne, hr, hk, fixed, Bool.not_true, Bool.false_eq_true, if_false, ne_eq,
    not_true_eq_false]
  rfl

theorem get_txn_eq_commit (s : State) (k : Key) (h : Inv s) (ha : s.active = true) :
    (s.get k false).2 = ((committed s).get k false).2 := by
  rw [get_eq_truth _ _ h, get_eq_truth _ _ (inv_committed h), truth_committed h ha]

theorem DataWF.verMono {s : State} (hd : DataWF s) (u : Nat) :
    State.VerMono (State.userStates s.db u ++ State.userStates s.log u) := by
  have e : State.userStates s.db u ++ State.userStates s.log u = State.userStates (s.db ++ s.log) u :=
    (List.filter_append ..).symm
  intro a ha b hb
  rw [e] at ha hb
  have := hd a b (State.userStates_sub ha) (State.userStates_sub hb)
  rw [State.userKeyed_userStates _ _ a ha, State.userKeyed_userStates _ _ b hb] at this
  exact (this rfl).2

theorem userStates_committed (s : State) (u : Nat) :
    State.userStates (committed s).db u
      = Map.setAll (State.userStates s.db u) (State.userStates s.log u) := by
  rw [committed_db, State.userStates_setAll, State.userStates_commitOrder]

theorem select_committed {s : State} (h : Inv s) (hd : DataWF s) (u : Nat) (f : Flag) :
    State.select (State.userStates (committed s).db u) f
      = State.pick f (State.select (State.userStates s.log u) f)
          (State.select (State.userStates s.db u) f) := by
  rw [userStates_committed]
  exact State.select_setAll (h.dbWF.filter _) (h.logWF.filter _)
    (State.userKeyed_userStates _ _) (State.userKeyed_userStates _ _) (hd.verMono u) f

theorem userState_txn_eq_commit (s : State) (u : Nat) (f : Flag) (h : Inv s) (hd : DataWF s)
    (ha : s.active = true) :
    (s.userState u f false).2 = ((committed s).userState u f false).2 := by
  rw [State.userState_obs, State.userState_obs, ha, committed_active, select_committed h hd]
  rfl

/-- as sets; an absent user is the empty answer -/
theorem userData_txn_eq_commit (s : State) (u : Nat) (h : Inv s) (ha : s.active = true) :
    ∃ a b, (s.userData u false).2 = .recs a ∧ ((committed s).userData u false).2 = .recs b ∧ a.Perm b := by
  have _ := h
  refine ⟨Map.setAll (State.userStates s.db u) (State.userStates s.log u),
    State.userStates (committed s).db u, ?_, ?_, ?_⟩
  · simp [State.userData, ha]
  · simp [State.userData]
  · rw [userStates_committed]

theorem userVersions_txn_eq_commit (s : State) (us : List Nat) (f : Flag) (h : Inv s) (hd : DataWF s)
    (ha : s.active = true) :
    (s.userVersions fixed us f false).2 = ((committed s).userVersions fixed us f false).2 := by
  rw [State.userVersions_obs, State.userVersions_obs, ha, committed_active]
  congr 2
  funext u
  rw [select_committed h hd, ← State.pickV_eq_pick (hd.verMono u)]
  rfl

theorem rollback_discards (s : State) (ha : s.active = true) :
    (s.rollback).1.db = s.db ∧ (s.rollback).1.log = [] ∧ (s.rollback).1.active = false := by
  simp [State.rollback, ha]

theorem begin_refused (s : State) (ha : s.active = true) :
    (s.begin).2 = .bool false ∧ (s.begin).1.log = s.log ∧ (s.begin).1.db = s.db := by
  simp [State.begin, ha]

/-- the pinned commit mixes epoch and version in the bulk-versions merge (defect D7) -/
theorem versions_merge_witness :
    ∃ s us f, Inv s ∧ DataWF s ∧ s.active = true ∧
      (s.userVersions legacy us f false).2 ≠ ((committed s).userVersions legacy us f false).2 := by
  refine ⟨{ db := [⟨.vs 1 5, 1, 10⟩], log := [⟨.vs 1 7, 2, 20⟩], active := true }, [1], .maxEpoch,
    Inv.ofEmptyCache (List.pairwise_singleton ..) (List.pairwise_singleton ..) rfl rfl nofun,
    ?_, rfl, ?_⟩
  · intro a b ha hb
    simp only [List.cons_append, List.nil_append, List.mem_cons, List.not_mem_nil, or_false] at ha hb
    rcases ha with rfl | rfl <;> rcases hb with rfl | rfl <;> simp
  · decide

/-! ## C10 -/

def Quiescent (s : State) : Prop := s.active = false ∧ s.log = []

/-- the program does not write (the phase of `publish` before the transaction only reads) -/
def ReadOnly (ops : List IOp) : Prop := ∀ o ∈ ops, ∀ r, o ≠ .set r

/-- what every step of a failing publish keeps: the database as it was at `s0`, and the invariant;
`a` is the transaction flag at this point of the call -/
def Kept (s0 : State) (a : Bool) (s : State) : Prop := s.db = s0.db ∧ s.active = a ∧ Inv s

theorem Kept.read {s0 s : State} {a : Bool} (h : Kept s0 a s) {op : Op} (hr : op.isRead = true) :
    Kept s0 a (step fixed s op).1 :=
  have ⟨e1, e2, _⟩ := step_read_frame fixed s op hr
  ⟨e1.trans h.1, e2.trans h.2.1, inv_step s op h.2.2⟩

theorem Kept.logged {s0 s : State} (h : Kept s0 true s) {op : Op} {l : Map}
    (e : step fixed s op = ({ s with log := l }, .ok)) : Kept s0 true (step fixed s op).1 :=
  ⟨by rw [e]; exact h.1, by rw [e]; exact h.2.1, inv_step s op h.2.2⟩

theorem Kept.iop {s0 s : State} (h : Kept s0 true s) (o : IOp) (f : Bool) :
    Kept s0 true (step fixed s (o.toOp f)).1 := by
  cases o with
  | set r => exact h.logged (State.batchSet_active fixed s [r] f h.2.1)
  | _ => exact h.read rfl

theorem Kept.commit_err {s0 s : State} {a : Bool} (h : Kept s0 a s) {f : Bool}
    (he : (s.commit fixed f).2 = .err) : Kept s0 false (s.commit fixed f).1 := by
  rcases State.commit_cases s f with ⟨ha, e⟩ | ⟨o, e⟩ | ⟨n, e⟩ <;> rw [e] at he ⊢
  · exact ⟨h.1, ha, h.2.2⟩
  · exact ⟨h.1, rfl, h.2.2.cleared⟩
  · cases he

theorem Kept.rollback {s0 s : State} {a : Bool} (h : Kept s0 a s) : Kept s0 false s.rollback.1 := by
  rw [State.rollback_eq]
  cases ha : s.active
  · exact ⟨h.1, ha, h.2.2⟩
  · exact ⟨h.1, rfl, h.2.2.cleared⟩

/-- why `ReadOnly g.pre` is assumed below: `pre` runs outside the transaction, where the model's
`IOp.set` writes straight to the database; a later failure then cannot undo it.  (The real `pre`
phase, directory.rs:120-139, only reads.) -/
theorem publish_fail_needs_readOnly :
    ∃ s g k key, Inv s ∧ Quiescent s ∧ (publishIO fixed s g k).2 ≠ .ok ∧
      (publishIO fixed s g k).1.db ≠ s.db ∧
      ((publishIO fixed s g k).1.get key false).2 ≠ (s.get key false).2 := by
  refine ⟨{}, ⟨[.set ⟨.node 0, 0, 1⟩], [.get (.node 1)], [], .azks⟩, some 1, .node 0,
    inv_init true, ⟨rfl, rfl⟩, ?_, ?_, ?_⟩ <;> decide

/-- a publish that does not succeed — because any database step failed, for ANY insertion program —
leaves the database as it was, no transaction open, and the cache coherent.
The hypothesis `ReadOnly g.pre` is needed (`publish_fail_needs_readOnly`). -/
theorem publish_fail_no_effect (s : State) (g : PublishProg) (k : Option Nat)
    (h : Inv s) (hq : Quiescent s) (hro : ReadOnly g.pre) (hs : (publishIO fixed s g k).2 ≠ .ok) :
    (publishIO fixed s g k).1.db = s.db ∧ Quiescent (publishIO fixed s g k).1 ∧ Inv (publishIO fixed s g k).1 := by
  have fin : ∀ {s'}, Kept s false s' → s'.db = s.db ∧ Quiescent s' ∧ Inv s' :=
    fun ⟨h1, h2, h3⟩ => ⟨h1, ⟨h2, h3.idle h2⟩, h3⟩
  -- the reads before the transaction
  have hpre := runIOps_preserves (Kept s false) fixed k g.pre
    (fun s' o f ho hk => hk.read (IOp.toOp_isRead (hro o ho) f)) s 0 ⟨rfl, hq.1, h⟩
  -- the insertion, inside the transaction
  have hins := runIOps_preserves (Kept s true) fixed k g.ins (fun s' o f _ hk => hk.iop o f)
  generalize hout : publishIO fixed s g k = out at hs ⊢
  unfold publishIO at hout
  generalize runIOps fixed k s 0 g.pre = r1 at hpre hout
  obtain ⟨s1, n1, e1⟩ := r1
  simp only [] at hpre hout
  by_cases he1 : e1 = true
  · rw [if_pos he1] at hout; subst hout; exact fin hpre
  rw [if_neg he1] at hout
  have hb : s1.begin.snd = Obs.bool true := by simp [State.begin, hpre.2.1]
  rw [if_neg (fun hn => hn hb)] at hout
  have hI := hins s1.begin.fst n1 ⟨hpre.1, rfl, inv_step s1 .begin hpre.2.2⟩
  generalize runIOps fixed k s1.begin.fst n1 g.ins = r2 at hI hout
  obtain ⟨s2, n2, e2⟩ := r2
  simp only [] at hI hout
  by_cases he2 : e2 = true
  · rw [if_pos he2] at hout; subst hout; exact fin hI.rollback
  rw [if_neg he2] at hout
  -- the final records go to the log
  have hS : Kept s true (s2.batchSet fixed g.final false).1 :=
    hI.logged (op := .batchSet g.final false) (State.batchSet_active fixed s2 g.final false hI.2.1)
  generalize (State.batchSet fixed s2 g.final false).fst = s3 at hS hout
  -- the root read
  have hG : Kept s true (s3.get g.rootKey (decide (k = some n2))).1 :=
    hS.read (op := .get g.rootKey (decide (k = some n2))) rfl
  generalize s3.get g.rootKey (decide (k = some n2)) = r4 at hG hout
  obtain ⟨s4, o4⟩ := r4
  simp only [] at hG hout
  by_cases he4 : o4 = Obs.err
  · rw [if_pos he4] at hout; subst hout; exact fin hG.rollback
  rw [if_neg he4] at hout
  -- the commit
  by_cases he5 : (State.commit fixed s4 (decide (k = some (n2 + 1)))).snd = Obs.err
  · rw [if_pos he5] at hout; subst hout; exact fin (hG.commit_err he5).rollback
  · rw [if_neg he5] at hout; subst hout
    exact absurd rfl hs

/-- hence every later read returns what it returned before the failed call
(`ReadOnly g.pre` as in `publish_fail_no_effect`) -/
theorem reads_after_failure (s : State) (g : PublishProg) (k : Option Nat) (key : Key)
    (h : Inv s) (hq : Quiescent s) (hro : ReadOnly g.pre) (hs : (publishIO fixed s g k).2 ≠ .ok) :
    ((publishIO fixed s g k).1.get key false).2 = (s.get key false).2 := by
  obtain ⟨h1, h2, h3⟩ := publish_fail_no_effect s g k h hq hro hs
  rw [get_eq_truth _ _ h3, get_eq_truth _ _ h]
  unfold truth
  rw [h1, h2.1, hq.1]
  simp only [Bool.false_eq_true, if_false]

/-- with the pinned ordering (cache filled before the write; root read after the commit) a failed
publish is visible (defects D3, D9) -/
theorem commit_fail_pollutes_cache :
    ∃ s g k, Inv s ∧ Quiescent s ∧ (publishIOLegacy legacy s g k).2 = .err ∧
      ((publishIOLegacy legacy s g k).1.get .azks false).2 ≠ (s.get .azks false).2 := by
  refine ⟨{ db := [⟨.azks, 0, 1⟩] }, ⟨[], [], [⟨.azks, 0, 2⟩], .azks⟩, some 0,
    Inv.ofEmptyCache (List.pairwise_singleton ..) .nil rfl rfl (fun _ => rfl), ⟨rfl, rfl⟩, ?_, ?_⟩
  · decide
  · decide

theorem root_read_after_commit_witness :
    ∃ s g k, Inv s ∧ Quiescent s ∧ (publishIOLegacy fixed s g k).2 = .err ∧
      (publishIOLegacy fixed s g k).1.db ≠ s.db := by
  refine ⟨{}, ⟨[], [], [⟨.azks, 0, 1⟩], .node 0⟩, some 1, inv_init true, ⟨rfl, rfl⟩, ?_, ?_⟩
  · decide
  · decide

end Akd.Store
