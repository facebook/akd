/-
C06 — a verifying lookup proof can only report the label's latest version.

`t` is the tree of an honestly maintained directory *as far as label `u` is concerned*
(`HonestFor`): it contains exactly the fresh leaves of `u`'s versions `1..n`, each with the
commitment to its value and the epoch of that update, and exactly the stale leaves of the
superseded versions `1..n-1`, each stamped with the epoch of its successor.  (`Thm/C01c.lean` shows
that the directory's publish produces such a tree for every label.)  `π` is EVERY proof value.
-/
import AkdModel.Verify
import AkdModel.Spec
import AkdModel.Thm.C05
import AkdModel.Lemmas.SoundLemmas
namespace Akd.C06
open Akd

/-- the VRF contract on the inputs in play: distinct inputs give distinct 256-bit labels -/
structure VrfOK (vrf : VrfTable) : Prop where
  inj : ∀ k k' l, vrf.get? k = some l → vrf.get? k' = some l → k = k'
  len : ∀ k l, vrf.get? k = some l → l.len = 256

theorem mem_of_get? {vrf : VrfTable} {k : VrfClaim} {l : NodeLabel} (h : vrf.get? k = some l) : (k, l) ∈ vrf := by
  induction vrf with
  | nil => cases h
  | cons x xs ih =>
    obtain ⟨k', l'⟩ := x
    simp only [VrfTable.get?] at h
    split at h
    · rename_i hk
      cases h
      rw [hk]
      exact List.mem_cons_self
    · exact List.mem_cons_of_mem _ (ih h)

theorem VrfOK.of_pairwise {vrf : VrfTable} (hd : vrf.Pairwise (fun x y => x.2 ≠ y.2))
    (hl : ∀ x ∈ vrf, x.2.len = 256) : VrfOK vrf where
  inj k k' l h1 h2 := by
    have m1 := mem_of_get? h1
    have m2 := mem_of_get? h2
    clear h1 h2 hl
    induction hd with
    | nil => cases m1
    | cons hx _ ih =>
      rcases List.mem_cons.1 m1 with e1 | m1 <;> rcases List.mem_cons.1 m2 with e2 | m2
      · exact (Prod.mk.inj (e1.trans e2.symm)).1
      · exact absurd (e1 ▸ rfl) (hx _ m2)
      · exact absurd (e2 ▸ rfl) (hx _ m1).symm
      · exact ih m1 m2
  len k l h := hl _ (mem_of_get? h)

theorem VrfOK.ofBits {tbl : List (VrfClaim × BitStr)} (hd : tbl.Pairwise (fun x y => x.2 ≠ y.2))
    (hl : ∀ x ∈ tbl, x.2.length = 256) : VrfOK (tbl.map fun x => (x.1, NodeLabel.ofBits x.2)) := by
  refine .of_pairwise (List.pairwise_map.2 (hd.imp_of_mem fun {a b} ha hb hab h =>
    hab (NodeLabel.ofBits_inj (Nat.le_of_eq (hl a ha)) (Nat.le_of_eq (hl b hb)) h))) ?_
  · intro x hx
    obtain ⟨y, hy, rfl⟩ := List.mem_map.1 hx
    exact hl y hy

/-- versions are numbered 1..n in order, with strictly increasing epochs (one batch holds a label at most once) -/
def VersionsOK (vs : List Spec.Ver) : Prop :=
  (∀ i (h : i < vs.length), (vs[i]).version = i + 1) ∧
  vs.Pairwise (fun a b => a.epoch < b.epoch)

structure HonestFor (c : Cfg) (key : Dig) (vrf : VrfTable) (t : CRoot) (u : Bytes) (vs : List Spec.Ver) : Prop where
  versions : VersionsOK vs
  fresh_present : ∀ v ∈ vs, ∃ l, vrf.get? ⟨u, true, v.version⟩ = some l ∧
      (⟨l.bits, c.commit v.value (c.nonce key l v.version v.value), v.epoch⟩ : Leaf) ∈ t.leaves
  fresh_only : ∀ ver l lf, vrf.get? ⟨u, true, ver⟩ = some l → lf ∈ t.leaves → lf.lbl = l.bits →
      ∃ v ∈ vs, v.version = ver ∧ lf.value = c.commit v.value (c.nonce key l ver v.value) ∧ lf.ep = v.epoch
  /-- a stale leaf of version `ver ≥ 1` exists iff `ver` has been superseded; it carries the stale value
  and the epoch of the superseding version.  (Version 0 does not exist and the verifiers never query
  its stale label: lookup needs `version ≠ 0`, history uses `version - 1` only for `version ≥ 2`.) -/
  stale_iff : ∀ ver l, 1 ≤ ver → vrf.get? ⟨u, false, ver⟩ = some l →
      ((∃ lf ∈ t.leaves, lf.lbl = l.bits) ↔ ∃ w ∈ vs, w.version = ver + 1)
  stale_stamp : ∀ ver l lf, 1 ≤ ver → vrf.get? ⟨u, false, ver⟩ = some l → lf ∈ t.leaves → lf.lbl = l.bits →
      lf.value = c.staleValue ∧ ∃ w ∈ vs, w.version = ver + 1 ∧ lf.ep = w.epoch

theorem VersionsOK.mem_index {vs : List Spec.Ver} (h : VersionsOK vs) {v : Spec.Ver} (hv : v ∈ vs) :
    ∃ i, ∃ hi : i < vs.length, vs[i] = v ∧ v.version = i + 1 := by
  obtain ⟨i, hi, rfl⟩ := List.getElem_of_mem hv
  exact ⟨i, hi, rfl, h.1 i hi⟩

theorem VersionsOK.unique {vs : List Spec.Ver} (h : VersionsOK vs) {v w : Spec.Ver}
    (hv : v ∈ vs) (hw : w ∈ vs) (e : v.version = w.version) : v = w := by
  obtain ⟨i, hi, rfl, h1⟩ := h.mem_index hv
  obtain ⟨j, hj, rfl, h2⟩ := h.mem_index hw
  have : i = j := Nat.succ.inj (h1.symm.trans (e.trans h2))
  subst this; rfl

theorem VersionsOK.getElem_of_version {vs : List Spec.Ver} (h : VersionsOK vs) {v : Spec.Ver}
    (hv : v ∈ vs) : ∃ hi : v.version - 1 < vs.length, vs[v.version - 1] = v := by
  obtain ⟨i, hi, rfl, h1⟩ := h.mem_index hv
  have e : (vs[i]).version - 1 = i := by rw [h1, Nat.add_sub_cancel]
  exact ⟨e.symm ▸ hi, by simp only [e]⟩

theorem VersionsOK.version_le {vs : List Spec.Ver} (h : VersionsOK vs) {v : Spec.Ver} (hv : v ∈ vs) :
    1 ≤ v.version ∧ v.version ≤ vs.length := by
  obtain ⟨i, hi, rfl, h1⟩ := h.mem_index hv
  rw [h1]
  exact ⟨Nat.succ_pos i, hi⟩

theorem VersionsOK.getLast_of_no_succ {vs : List Spec.Ver} (h : VersionsOK vs) {v : Spec.Ver}
    (hv : v ∈ vs) (hno : ∀ w ∈ vs, w.version ≠ v.version + 1) : vs.getLast? = some v := by
  obtain ⟨i, hi, rfl, h1⟩ := h.mem_index hv
  have hlast : i + 1 = vs.length := by
    rcases Nat.lt_or_ge (i + 1) vs.length with hlt | hge
    · exact absurd (by rw [h.1 (i + 1) hlt, h1]) (hno vs[i + 1] (List.getElem_mem _))
    · exact Nat.le_antisymm hi hge
  rw [List.getLast?_eq_getElem?]
  have : vs.length - 1 = i := Nat.sub_eq_of_eq_add hlast.symm
  rw [this, List.getElem?_eq_getElem hi]

section Bound
variable {c : Cfg} {key : Dig} {vrf : VrfTable} {t : CRoot} {u : Bytes} {vs : List Spec.Ver}

theorem bound_strict (hc : c.Lawful) (h256 : C05.Leaves256 t) (hon : HonestFor c key vrf t u vs)
    {value : Bytes} {ep : Nat} {nonce : Dig} {ver : Nat} {pf : VrfProof} {mp : MembershipProof}
    (h : Verify.existenceWithVal c vrf (t.rootHash c) u value ep nonce true ver pf mp = .ok ()) :
    ∃ v ∈ vs, v.version = ver ∧ value = v.value ∧ ep = v.epoch := by
  obtain ⟨h1, hex⟩ := Snd.existenceWithVal_iff.1 h
  obtain ⟨-, h2, h3⟩ := Snd.existence_iff.1 hex
  obtain ⟨lf, hlf, hl, hval, hep⟩ := Snd.leaf_of_membership c hc t h256 mp _ _ h1 h3
  obtain ⟨v, hv, hver, hval', hep'⟩ := hon.fresh_only ver mp.label lf h2 hlf hl
  refine ⟨v, hv, hver, ?_, ?_⟩
  · exact (hc.commit_inj _ _ _ _ (hval.symm.trans hval')).1
  · exact hep.symm.trans hep'

theorem bound_version (hc : c.Lawful) (hfresh : C05.EmptyLabelFresh c) (hv : VrfOK vrf)
    (hwf : t.WF) (h256 : C05.Leaves256 t) (hon : HonestFor c key vrf t u vs)
    {ver : Nat} {pf : VrfProof} {mp : MembershipProof}
    (h : Verify.existence c vrf (t.rootHash c) u true ver pf mp = .ok ()) :
    ∃ v ∈ vs, v.version = ver := by
  obtain ⟨-, h2, h3⟩ := Snd.existence_iff.1 h
  obtain ⟨lf, hlf, hl⟩ := Snd.leaf_of_membership_256 c hc hfresh t hwf h256 mp (hv.len _ _ h2) h3
  obtain ⟨v, hv', hver, -, -⟩ := hon.fresh_only ver mp.label lf h2 hlf hl
  exact ⟨v, hv', hver⟩

theorem bound_stale (hc : c.Lawful) (h256 : C05.Leaves256 t) (hon : HonestFor c key vrf t u vs)
    {ep : Nat} {ver : Nat} (hver1 : 1 ≤ ver) {pf : VrfProof} {mp : MembershipProof}
    (h : Verify.existenceWithCommitment c vrf (t.rootHash c) u c.staleValue ep false ver pf mp = .ok ()) :
    ∃ w ∈ vs, w.version = ver + 1 ∧ ep = w.epoch := by
  obtain ⟨h1, hex⟩ := Snd.existenceWithCommitment_iff.1 h
  obtain ⟨-, h2, h3⟩ := Snd.existence_iff.1 hex
  obtain ⟨lf, hlf, hl, -, hep⟩ := Snd.leaf_of_membership c hc t h256 mp _ _ h1 h3
  obtain ⟨-, w, hw, hver, hep'⟩ := hon.stale_stamp ver mp.label lf hver1 h2 hlf hl
  exact ⟨w, hw, hver, hep.symm.trans hep'⟩

theorem absent_fresh (hc : c.Lawful) (hfresh : C05.EmptyLabelFresh c) (hv : VrfOK vrf)
    (hwf : t.WF) (h256 : C05.Leaves256 t) (hon : HonestFor c key vrf t u vs)
    {ver : Nat} {pf : VrfProof} {np : NonMembershipProof}
    (h : Verify.nonexistence c vrf (t.rootHash c) u true ver pf np = .ok ()) :
    ∀ v ∈ vs, v.version ≠ ver := by
  obtain ⟨-, h2, h3⟩ := Snd.nonexistence_iff.1 h
  intro v hv' hver
  obtain ⟨l, hl, hmem⟩ := hon.fresh_present v hv'
  rw [hver, h2] at hl
  injection hl with hl
  subst hl
  exact Snd.no_leaf_of_nonmembership c hc hfresh t hwf h256 np (hv.len _ _ h2) h3 _ hmem rfl

theorem absent_stale (hc : c.Lawful) (hfresh : C05.EmptyLabelFresh c) (hv : VrfOK vrf)
    (hwf : t.WF) (h256 : C05.Leaves256 t) (hon : HonestFor c key vrf t u vs)
    {ver : Nat} (hver1 : 1 ≤ ver) {pf : VrfProof} {np : NonMembershipProof}
    (h : Verify.nonexistence c vrf (t.rootHash c) u false ver pf np = .ok ()) :
    ∀ w ∈ vs, w.version ≠ ver + 1 := by
  obtain ⟨-, h2, h3⟩ := Snd.nonexistence_iff.1 h
  intro w hw hver
  obtain ⟨lf, hlf, hl⟩ := (hon.stale_iff ver np.label hver1 h2).mpr ⟨w, hw, hver⟩
  exact Snd.no_leaf_of_nonmembership c hc hfresh t hwf h256 np (hv.len _ _ h2) h3 lf hlf hl

end Bound

/-- **lookup soundness** (full strength): whatever proof is accepted against the honest root
reports the latest version, its value and the epoch of that update -/
theorem lookup_sound (c : Cfg) (hc : c.Lawful) (hfresh : C05.EmptyLabelFresh c)
    (key : Dig) (vrf : VrfTable) (hv : VrfOK vrf)
    (t : CRoot) (hwf : t.WF) (h256 : C05.Leaves256 t)
    (u : Bytes) (vs : List Spec.Ver) (hon : HonestFor c key vrf t u vs)
    (E : Nat) (π : LookupProof) (r : Verify.VerifyResult)
    (hacc : Verify.lookup c vrf (t.rootHash c) E u π = .ok r) :
    ∃ last, vs.getLast? = some last ∧ r = ⟨last.epoch, last.version, last.value⟩ := by
  obtain ⟨-, hne0, hr, hex, -, hnon⟩ := Snd.lookup_ok hacc
  obtain ⟨v, hmem, hver, hval, hep⟩ := bound_strict hc h256 hon hex
  have hno := absent_stale hc hfresh hv hwf h256 hon (Nat.pos_of_ne_zero hne0) hnon
  rw [← hver] at hno
  refine ⟨v, hon.versions.getLast_of_no_succ hmem hno, ?_⟩
  rw [hr, hver, hval, hep]

/-- in particular nothing is accepted for a label that was never published -/
theorem lookup_unpublished_rejected (c : Cfg) (hc : c.Lawful) (hfresh : C05.EmptyLabelFresh c)
    (key : Dig) (vrf : VrfTable) (hv : VrfOK vrf)
    (t : CRoot) (hwf : t.WF) (h256 : C05.Leaves256 t)
    (u : Bytes) (hon : HonestFor c key vrf t u [])
    (E : Nat) (π : LookupProof) :
    ∀ r, Verify.lookup c vrf (t.rootHash c) E u π ≠ .ok r := by
  intro r hacc
  obtain ⟨last, hl, -⟩ := lookup_sound c hc hfresh key vrf hv t hwf h256 u [] hon E π r hacc
  simp at hl

theorem lookup_version_gt_epoch (c : Cfg) (vrf : VrfTable) (root : Dig) (E : Nat) (u : Bytes) (π : LookupProof)
    (h : π.version > E) : Verify.lookup c vrf root E u π = .error .lookup := by
  unfold Verify.lookup
  rw [if_pos h]

/-! ## non-vacuity: the hypotheses hold together

Here: the tree and the oracle table.  That the tree is well-formed and honest (`Ex.wf`, `Ex.leaves256`, `Ex.honest`)
is an instance of what holds of the leaf set of every table (`Pub.honestFor_leaves`): end of `Thm/C01c.lean`.  That
`lookupProof` is accepted is an instance of completeness (`Gen.honestLookup_verifies`), which is proved from this
file on: the `example` stands at the end of `Thm/C02.lean`. -/
namespace Ex
open NodeLabel

def u : Bytes := [1]
def bF1 : BitStr := List.replicate 256 false
def bS1 : BitStr := true :: List.replicate 255 false
def bF2 : BitStr := false :: true :: List.replicate 254 false
def bS2 : BitStr := true :: true :: List.replicate 254 false
def bF3 : BitStr := false :: false :: true :: List.replicate 253 false
def vrf : VrfTable :=
  [(⟨u, true, 1⟩, ofBits bF1), (⟨u, false, 1⟩, ofBits bS1), (⟨u, true, 2⟩, ofBits bF2),
   (⟨u, false, 2⟩, ofBits bS2), (⟨u, true, 3⟩, ofBits bF3)]
def vs : List Spec.Ver := [⟨1, [10], 1⟩, ⟨2, [20], 3⟩]
def key : Dig := .raw [7]
def cfg : Cfg := Cfg.whatsappV1
/-- the canonical tree over the leaves the specification prescribes: fresh(1), stale(1), fresh(2) -/
def t : CRoot := CRoot.ofLeaves (Spec.leaves cfg key vrf [(u, vs)])

theorem bitsF1 : (ofBits bF1).bits = bF1 := C17.bits_ofBits _ (by simp only [bF1, List.length_replicate, Nat.le_refl])
theorem bitsS1 : (ofBits bS1).bits = bS1 := C17.bits_ofBits _ (by simp only [bS1, List.length_cons, List.length_replicate, Nat.le_refl])
theorem bitsF2 : (ofBits bF2).bits = bF2 := C17.bits_ofBits _ (by simp only [bF2, List.length_cons, List.length_replicate, Nat.le_refl])
theorem bitsS2 : (ofBits bS2).bits = bS2 := C17.bits_ofBits _ (by simp only [bS2, List.length_cons, List.length_replicate, Nat.le_refl])
theorem bitsF3 : (ofBits bF3).bits = bF3 := C17.bits_ofBits _ (by simp only [bF3, List.length_cons, List.length_replicate, Nat.le_refl])

theorem vrfOK : VrfOK vrf :=
  VrfOK.ofBits (tbl := [(⟨u, true, 1⟩, bF1), (⟨u, false, 1⟩, bS1), (⟨u, true, 2⟩, bF2), (⟨u, false, 2⟩, bS2),
    (⟨u, true, 3⟩, bF3)]) (by decide +kernel) (by decide +kernel)

/-- decidable equality of verifier outcomes, with which a closed verifier run can be compared with its expected
result by `decide` (dear: the run compares 32-byte labels at every step of every proof) -/
scoped instance exceptDecEq {ε α : Type} [DecidableEq ε] [DecidableEq α] : DecidableEq (Except ε α)
  | .ok a, .ok b => if h : a = b then isTrue (h ▸ rfl) else isFalse (fun e => h (Except.ok.inj e))
  | .error a, .error b => if h : a = b then isTrue (h ▸ rfl) else isFalse (fun e => h (Except.error.inj e))
  | .ok _, .error _ => isFalse (fun e => nomatch e)
  | .error _, .ok _ => isFalse (fun e => nomatch e)

/-- the honest lookup proof at epoch 3; that it is accepted, together with all hypotheses of
`lookup_sound`: end of `Thm/C02.lean`, from completeness -/
def lookupProof : LookupProof :=
  ⟨3, [20], 2, some ⟨u, true, 2⟩, t.genMembership cfg bF2, some ⟨u, true, 2⟩, t.genMembership cfg bF2,
    some ⟨u, false, 2⟩, t.genNonMembership cfg bS2, cfg.nonce key (ofBits bF2) 2 [20]⟩

end Ex

end Akd.C06
